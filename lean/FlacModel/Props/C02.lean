/-
  Props/C02.lean — C02: encoder output is conforming RFC 9639.
  Obligations on the definitions REGENERATED from the source (CRC tables, update expressions, header
  code tables), checked against the RFC's polynomials and tables written here from the RFC text.
-/
import FlacModel.Spec.Rfc
import FlacModel.Model.Decode
import FlacModel.Proofs.CrcEq
import FlacModel.Gen.KernelsEnc
import FlacModel.Proofs.Layout

namespace Flac.C02
open Flac Gen

/-- table entry `i` of an MSB-first CRC = eight LFSR steps of the byte `i` -/
def specEntry (width poly i : Nat) : Nat := Spec.crcBits width poly (natToBits 8 i)

/-- `crc.rs` CRC-8 table is the table of x⁸+x²+x+1 (RFC 9639 §9.1.8) — all 256 entries -/
theorem gen_crc8_is_poly07 : ∀ i : Fin 256, crc8Table.getD i.val 0 = specEntry 8 0x07 i.val :=
  fun i => CrcEq.t8_entry i.val i.isLt

/-- `crc.rs` CRC-16 table is the table of x¹⁶+x¹⁵+x²+1 (RFC 9639 §9.3) — all 256 entries.
    (an entry is the LFSR run on the byte followed by eight zero bits shifted through 16-bit state) -/
theorem gen_crc16_is_poly8005 :
    ∀ i : Fin 256, crc16Table.getD i.val 0 = Spec.crcBits 16 0x8005 (natToBits 8 i.val) :=
  fun i => CrcEq.t16_entry i.val i.isLt

/-- the update expressions extracted from `Crc8::update` / `Crc16::update` are the standard
    MSB-first table-driven forms -/
theorem gen_crc8_update_shape (c b : Nat) : crc8Update c b = crc8Table.getD (Nat.xor c b) 0 := rfl

theorem gen_crc16_update_shape (c b : Nat) :
    crc16Update c b = Nat.xor (crc16Table.getD (Nat.xor (c / 2 ^ 8 % 256) b) 0) (c * 2 ^ 8 % 65536) := rfl

/-- **The checksums the crate computes are the RFC's checksums, on every message of every length**: the table-driven
    `Crc16`/`Crc8` of crc.rs (tables and update expressions regenerated into `Gen/Crc.lean`) equal the bit-serial LFSRs
    of x¹⁶+x¹⁵+x²+1 and x⁸+x²+x+1 written from the RFC.  Proof (`Proofs/CrcEq.lean`): the LFSR step is linear over
    xor, so eight steps from any state are "eight steps of the state" xor "the table entry of the byte"; the tables are
    checked entry by entry. -/
theorem crc16_all_messages (bs : List Nat) (hb : ∀ x ∈ bs, x < 256) : crc16 bs = Spec.crc16 bs :=
  CrcEq.crc16_eq_spec bs hb

theorem crc8_all_messages (bs : List Nat) (hb : ∀ x ∈ bs, x < 256) : crc8 bs = Spec.crc8 bs :=
  CrcEq.crc8_eq_spec bs hb

theorem gen_crc16_one_byte : ∀ i : Fin 256, crc16 [i.val] = Spec.crc16 [i.val] :=
  fun i => crc16_all_messages [i.val] (by simp [i.isLt])

theorem gen_crc8_one_byte : ∀ i : Fin 256, crc8 [i.val] = Spec.crc8 [i.val] :=
  fun i => crc8_all_messages [i.val] (by simp [i.isLt])

/-- **The residual the encoder records is the exact difference** `sample − ⌊Σ cᵢ·xᵢ / 2^shift⌋` whenever it records one, so
    the RFC's exact reconstruction `residual + prediction` gives the sample back - also when the prediction itself lies
    outside 32 bits (32-bit audio with a large step), where a prediction truncated before the subtraction would encode
    the sample plus a multiple of 2^32.  (`encResidualStep` is regenerated from `encode_residuals`.) -/
theorem residual_exact (x sum : Int) (shift : Nat) (r : Int) (h : encResidualStep x sum shift = some r) :
    r + sum / 2 ^ shift = x ∧ fitsS 32 r = true := by
  rw [encResidualStep, Int.toNat_natCast, checkedSubS_eq_some] at h
  obtain ⟨hf, rfl⟩ := h
  exact ⟨Int.sub_add_cancel .., hf⟩

/-- a step whose prediction is outside 32 bits: warm-up −1553219575, 1939558944 with coefficients 2, −1 predicts 5432337463;
    the residual is refused rather than wrapped -/
example : encResidualStep 1939558944 (2 * 1939558944 - -1553219575) 0 = none := by decide

/-! ### header code tables (RFC 9639 §9.1.1–§9.1.4, Tables 14–17) written from the RFC -/

def rfcBlockSizes : List (Nat × Nat) :=
  [(1, 192), (2, 576), (3, 1152), (4, 2304), (5, 4608), (8, 256), (9, 512), (10, 1024), (11, 2048),
   (12, 4096), (13, 8192), (14, 16384), (15, 32768)]
def rfcSampleRates : List (Nat × Nat) :=
  [(1, 88200), (2, 176400), (3, 192000), (4, 8000), (5, 16000), (6, 22050), (7, 24000), (8, 32000),
   (9, 44100), (10, 48000), (11, 96000)]
def rfcChannels : List (Nat × Nat) := [(0, 1), (1, 2), (2, 3), (3, 4), (4, 5), (5, 6), (6, 7), (7, 8)]
def rfcBps : List (Nat × Nat) := [(1, 8), (2, 12), (4, 16), (5, 20), (6, 24), (7, 32)]

/-- every header code table extracted from `stream.rs` is the RFC's table, including the
    uncommon/reserved codes and the sync code -/
theorem gen_tables_eq_rfc :
    blockSizeCodeFixed = rfcBlockSizes ∧ blockSizeCodeU8 = [6] ∧ blockSizeCodeU16 = [7] ∧ blockSizeCodeInvalid = [0]
    ∧ sampleRateCodeFixed = rfcSampleRates ∧ sampleRateCodeStreaminfo = [0] ∧ sampleRateCodeKHz = [12]
    ∧ sampleRateCodeHz = [13] ∧ sampleRateCodeDHz = [14] ∧ sampleRateCodeInvalid = [15]
    ∧ [sampleRateKHzBits, sampleRateKHzMul, sampleRateHzBits, sampleRateHzMul, sampleRateDHzBits, sampleRateDHzMul] = [8, 1000, 16, 1, 16, 10]
    ∧ chanCodeIndependent = rfcChannels ∧ chanCodeLeftSide = [8] ∧ chanCodeSideRight = [9] ∧ chanCodeMidSide = [10]
    ∧ chanCodeInvalid = [11, 12, 13, 14, 15]
    ∧ bpsCodeFixed = rfcBps ∧ bpsCodeStreaminfo = [0] ∧ bpsCodeInvalid = [3]
    ∧ [subTypeConstant, subTypeVerbatim, subTypeFixedLo, subTypeFixedHi, subTypeFixedBase, subTypeLpcLo, subTypeLpcHi, subTypeLpcBase]
        = [0, 1, 8, 12, 8, 32, 63, 31]
    ∧ fixedCoeffs = [[], [1], [2, -1], [3, -3, 1], [4, -6, 4, -1]]
    ∧ syncCode15 = 0x7FFC ∧ maxFrameNumber = 2 ^ 36 - 1 := by
  decide

/-- the code the writer picks for a value is a code the reader maps back to that value -/
theorem gen_write_read_inverse :
    (∀ p ∈ blockSizeWriteFixed, lookup blockSizeCodeFixed p.2 = some p.1)
    ∧ (∀ p ∈ sampleRateWriteFixed, lookup sampleRateCodeFixed p.2 = some p.1)
    ∧ (∀ p ∈ chanWriteIndependent, lookup chanCodeIndependent p.2 = some p.1)
    ∧ (∀ p ∈ bpsWriteFixed, lookup bpsCodeFixed p.2 = some p.1)
    ∧ blockSizeCodeU8.contains blockSizeWriteU8 = true ∧ blockSizeCodeU16.contains blockSizeWriteU16 = true
    ∧ sampleRateCodeKHz.contains sampleRateWriteKHz = true ∧ sampleRateCodeHz.contains sampleRateWriteHz = true
    ∧ sampleRateCodeDHz.contains sampleRateWriteDHz = true ∧ sampleRateCodeStreaminfo.contains sampleRateWriteStreaminfo = true
    ∧ chanCodeLeftSide.contains chanWriteLeftSide = true ∧ chanCodeSideRight.contains chanWriteSideRight = true
    ∧ chanCodeMidSide.contains chanWriteMidSide = true ∧ bpsCodeStreaminfo.contains bpsWriteStreaminfo = true := by
  decide

/-- the L0 partition layout is the one the encoder rule produces whenever the RFC's
    conditions hold: `2^po ∣ bs` and `(bs >> po) > order` -/
theorem rfc_layout_is_rchunks (bs order po : Nat) (hdiv : bs % 2 ^ po = 0) (hgt : order < bs / 2 ^ po) (ho : 0 < order) :
    Spec.rfcLayout bs order po = .ok (rchunkSizes (bs - order) (bs / 2 ^ po)) :=
  rfcLayout_eq_rchunks bs order po hdiv hgt

end Flac.C02
