/-
  Props/C04.lean — C04: decoding arbitrary bytes never panics (both build profiles).
  `NoPanic r` = the modelled call does not end at a panic site.  Every function the streaming decoder runs
  (`decodeFrame`, the stream reader, the file loop; not the structural parser `parseFrame`) is shown panic-free for ALL inputs: the bit readers because panic-freedom is a property
  the primitives have and sequencing preserves (`pnp_closed`, an instance of `Closed`, Proofs/Parser.lean);
  the arithmetic facts come from the kernels regenerated from decode.rs (wrapping operations, guarded
  partition length).
  A function written as a ladder of `match`/`if` is followed leaf by leaf: a leaf is a value (`np_ok`), a literal
  error (`np_err`), or an error handed on from a panic-free callee with the equation `callee = .error e` at hand
  (`NoPanic.error`).
-/
import FlacModel.Model.FileDecode
import FlacModel.Model.StreamReader
import FlacModel.Proofs.Machine
import FlacModel.Proofs.Parser
import FlacModel.Proofs.Codec

namespace Flac.C04
open Flac Gen

def NoPanic (r : Res α) : Prop := ∀ s, r ≠ .error (.panic s)

def PNoPanic (p : P α) : Prop := ∀ b, NoPanic (p b)

theorem np_ok (a : α) : NoPanic (.ok a : Res α) := by intro s h; cases h
theorem np_err (c : String) : NoPanic (.error (.err c) : Res α) := by intro s h; cases h

/-- a call whose only failure is end-of-data (what the primitive readers are, cf. `Local.of_eof`) -/
theorem np_of_eof {r : Res α} (h : ∀ e, r = .error e → e = .eof) : NoPanic r := fun _ hs => nomatch h _ hs

/-- an error passed on from a panic-free step is not a panic -/
theorem NoPanic.error {f : Res α} (hf : NoPanic f) {e : Fail} (h : f = .error e) : NoPanic (.error e : Res β) :=
  fun s hs => hf s (by cases hs; exact h)

theorem NoPanic.ne_panic {f : Res α} (hf : NoPanic f) {e : Fail} (h : f = .error e) (s : String) : e ≠ .panic s :=
  fun he => hf s (he ▸ h)

theorem np_ite {c : Prop} [Decidable c] {a b : Res α} (ha : NoPanic a) (hb : NoPanic b) : NoPanic (if c then a else b) := by
  split <;> assumption

theorem np_bind {x : Res α} {f : α → Res β} (hx : NoPanic x) (hf : ∀ a, NoPanic (f a)) : NoPanic (x >>= f) := by
  cases x with
  | error e => exact hx.error rfl
  | ok a => exact hf a

theorem np_guard {c : Prop} [Decidable c] {e : String} {b : Res α} (hb : ¬ c → NoPanic b) :
    NoPanic (if c then .error (.err e) else b) := by
  split
  · exact np_err _
  · exact hb ‹_›

/-- sequencing in the explicit `match … with | .error e => .error e | .ok a => g a` style -/
theorem np_seq {f : Res α} {g : α → Res β} (hf : NoPanic f) (hg : ∀ a, NoPanic (g a)) :
    NoPanic (match f with | .error e => .error e | .ok a => g a) := by
  cases f with
  | error e => exact hf.error rfl
  | ok a => exact hg a

theorem pnp_closed : Closed (fun p => PNoPanic p) (fun g => NoPanic g) where
  pure a := fun _ => np_ok _
  fail c := fun _ => np_err c
  bind hp hf := fun b => by
    simp only [bind, P.bind]
    split
    · exact hf _ ⟨b, _, ‹_›⟩ _
    · exact (hp b).error ‹_›
  lift g hg := fun b => by
    unfold liftRes
    split
    · exact np_ok _
    · exact hg.error rfl
  readBit := fun b => np_of_eof (readBit_error b)
  takeBits n := fun b => np_of_eof fun e h => (takeBits_error_iff.mp h).1
  readUnary0 := fun b => np_of_eof (readUnary0_error b)
  readUnary1 := fun b => np_of_eof (readUnary1_error b)

/-- the decoder's partition layout never panics: a zero partition length is an error
    (this is `Gen.decZeroPartitionLen`, extracted from `read_block`) -/
theorem np_decLayout (bs order po : Nat) : NoPanic (decLayout bs order po) :=
  np_ite (np_err _) (np_ite (np_err _) (np_ite (np_err _) (np_ok _)))

/-- facts about a parsed subframe that the arithmetic relies on -/
def SubOk (bps : Nat) (s : Subframe) : Prop :=
  s.wasted < bps ∧ (∀ o w pr sh c r, s.body = .lpc o w pr sh c r → sh < 16)

theorem SubOk.of_subWf {L : Layout} {bs bps : Nat} {s : Subframe} (w : subWf L bs bps s) : SubOk bps s :=
  ⟨w.1, fun o wm pr sh c r hb => by
    have wb := w.2
    rw [hb] at wb
    obtain ⟨_, _, _, _, _, _, _, hsh, _⟩ := wb
    exact Nat.lt_succ_of_le hsh⟩

/-- the subframe reader is one of the closed readers, and what it accepts is well-formed (`readSubframe_sound`), of which
    `SubOk` is a part; `np_decSubframes` takes the second half -/
theorem readSubframe_np_facts (cw : Bool) (bs bps : Nat) (b : Bits) :
    NoPanic (readSubframe decLayout cw bs bps b) ∧
    (∀ s r, readSubframe decLayout cw bs bps b = .ok (s, r) → SubOk bps s) :=
  ⟨pnp_closed.readSubframe (fun _ _ _ => np_decLayout _ _ _) cw bs bps b,
    fun _ _ h => .of_subWf (readSubframe_sound decLayout_sum.fits h).1⟩

theorem np_predictStep (p : Profile) (w : Nat) (r sum : Int) (shift : Nat) (hs : shift < 64) :
    NoPanic (predictStep p w r sum shift) := by
  unfold predictStep decDot
  simp only [pure, Except.pure]
  split
  · simp only [decPredictStep32, bind, Except.bind, pure, Except.pure, shrX_ok p 64 shift hs]; exact np_ok _
  · simp only [decPredictStep64, bind, Except.bind, pure, Except.pure, shrX_ok p 64 shift hs]; exact np_ok _

theorem np_predictGo (p : Profile) (w : Nat) (coefs : List Int) (shift : Nat) (hs : shift < 64) (hist rs : List Int) :
    NoPanic (predictGo p w coefs shift hist rs) := by
  fun_induction predictGo p w coefs shift hist rs
  · exact np_ok _
  · exact (np_predictStep p w _ _ shift hs).error ‹_›
  · assumption

theorem np_mapM' {f : Int → Res Int} (hf : ∀ x, NoPanic (f x)) (xs : List Int) : NoPanic (mapM' f xs) := by
  fun_induction mapM' f xs
  · exact np_ok _
  · exact (hf _).error ‹_›
  · rename_i ih; exact ih.error ‹_›
  · exact np_ok _

theorem np_wastedShl (p : Profile) (w wasted : Nat) (hw : wasted < w) (hw32 : w = 32 ∨ w = 64) (x : Int) :
    NoPanic (wastedShl p w wasted x) := by
  unfold wastedShl
  rcases hw32 with rfl | rfl
  · simp only [if_true, decWastedShl32, shlS_ok p 32 wasted hw]; exact np_ok _
  · simp only [decWastedShl64, shlS_ok p 64 wasted hw]; exact np_ok _

theorem np_of_eq {r r' : Res α} (h : r = r') (hn : NoPanic r') : NoPanic r := by rw [h]; exact hn

theorem np_decodeSub (p : Profile) (w bs bps : Nat) (s : Subframe) (hok : SubOk bps s) (hbw : bps ≤ w)
    (hw32 : w = 32 ∨ w = 64) : NoPanic (decodeSub p w bs s) := by
  obtain ⟨hwasted, hshift⟩ := hok
  rw [decodeSub_eq]
  refine np_bind ?_ fun xs => np_ite (np_mapM' (np_wastedShl p w s.wasted (by omega) hw32) _) (np_ok _)
  -- the body: two kinds are values, two are prediction loops
  cases hb : s.body with
  | constant _ => exact np_ok _
  | verbatim _ => exact np_ok _
  | fixed _ _ _ => exact np_predictGo p w _ 0 (by omega) _ _
  | lpc _ _ _ shift _ _ => exact np_predictGo p w _ _ (by have := hshift _ _ _ _ _ _ hb; omega) _ _

theorem np_zipWithM {f : Int → Int → Res α} (hf : ∀ a b, NoPanic (f a b)) (xs ys : List Int) :
    NoPanic (zipWithM f xs ys) := by
  fun_induction zipWithM f xs ys
  · exact (hf _ _).error ‹_›
  · rename_i ih; exact ih.error ‹_›
  · exact np_ok _
  · exact np_ok _

/-- the narrow reconstruction kernels are pure wrapping arithmetic: each is `pure _`, or matches on three of those, so it
    reduces to `.ok _` by computation and `np_ok _` is accepted as it stands -/
theorem np_narrow (p : Profile) :
    (∀ a b, NoPanic (decLeftSide p a b)) ∧ (∀ a b, NoPanic (decSideRight p a b)) ∧ ∀ a b, NoPanic (midSide32 p a b) :=
  ⟨fun _ _ => np_ok _, fun _ _ => np_ok _, fun _ _ => np_ok _⟩

/-- the 33-bit kernels: the only checked operation left is `*mid as i64 * 2`, which cannot overflow because `*mid` is an
    `i32`.  It is in `decMidSumWide`, the first of the three kernels `midSide64` matches on; with its result in (`hm`) the
    other two are `pure _` and the whole reduces to `.ok _`, as the side kernels do at once. -/
theorem np_wide (p : Profile) :
    (∀ a b, NoPanic (decLeftSideWide p a b)) ∧ (∀ a b, NoPanic (decSideRightWide p a b)) ∧ ∀ a b, NoPanic (midSide64 p a b) := by
  refine ⟨fun _ _ => np_ok _, fun _ _ => np_ok _, fun a b => ?_⟩
  have hb : -2147483648 ≤ wrapS 32 a ∧ wrapS 32 a < 2147483648 := (fitsS32_iff _).mp (wrapS_fits 31 a)
  have hc : castS 64 (castS 32 a) = castS 32 a := wrapS64_of_fits (by simp only [castS]; rw [fitsS64_iff]; omega)
  have hm : mulS p 64 "decMidSumWide: x * x" (castS 64 (castS 32 a)) 2 = .ok (castS 32 a * 2) := by
    rw [hc, mulS]; exact resS_of_fits p 64 (by simp only [castS]; rw [fitsS64_iff]; omega)
  unfold midSide64 decMidSumWide
  rw [hm]
  exact np_ok _

/-- the pairwise pass with whichever kernel the depth selects -/
theorem np_zipWithM_ite {c : Prop} [Decidable c] {f g : Int → Int → Res α} (hf : ∀ a b, NoPanic (f a b))
    (hg : ∀ a b, NoPanic (g a b)) (xs ys : List Int) : NoPanic (zipWithM (if c then f else g) xs ys) := by
  split <;> exact np_zipWithM ‹_› xs ys

theorem np_recorrelate (p : Profile) (a : Assign) (bps : Nat) (chs : List (List Int)) :
    NoPanic (recorrelate p a bps chs) := by
  unfold recorrelate
  split
  · exact np_ok _
  · split
    · exact (np_zipWithM_ite (np_narrow p).1 (np_wide p).1 _ _).error ‹_›
    · exact np_ok _
  · split
    · exact (np_zipWithM_ite (np_narrow p).2.1 (np_wide p).2.1 _ _).error ‹_›
    · exact np_ok _
  · split
    · exact (np_zipWithM_ite (np_narrow p).2.2 (np_wide p).2.2 _ _).error ‹_›
    · exact np_ok _
  · exact np_ok _

theorem np_checkStreaminfo (si : Option SInfo) (h : Header) : NoPanic (checkStreaminfo si h) := by
  cases si with
  | none => exact np_ok _
  | some s => exact np_ite (np_err _) (np_ite (np_err _) (np_ite (np_err _) (np_ite (np_err _) (np_ok _))))

theorem np_decSubframes (p : Profile) (a : Assign) (bs bps : Nat) (hb : bps ≤ 32) (n i : Nat) :
    PNoPanic (decSubframes p a bs bps n i) := by
  refine pnp_closed.decSubframes p a bs bps (fun _ _ _ => np_decLayout _ _ _) (fun i b s r hs => ?_) n i
  have hsb : subBps a bps i ≤ bps + 1 := by unfold subBps; split <;> omega
  have hw : subBps a bps i ≤ subWidth a bps i ∧ (subWidth a bps i = 32 ∨ subWidth a bps i = 64) := by
    unfold subWidth; split <;> omega
  exact np_decodeSub p _ bs _ s ((readSubframe_np_facts true bs _ b).2 s r hs) hw.1 hw.2

/-- **decode_no_panic** — for EVERY byte string, every STREAMINFO context and BOTH build profiles,
    decoding one frame (`FrameHeader::read{,_subset}` + `read_subframes` + CRC-16) returns data or
    an error; no panic site is reachable. -/
theorem decode_no_panic (p : Profile) (si : Option SInfo) (bytes : List Nat) : NoPanic (decodeFrame p si bytes) := by
  rw [decodeFrame_eq]
  exact np_bind (pnp_closed.readHeaderFields si _) fun _ => np_bind (np_checkStreaminfo si _) fun _ =>
    np_guard fun _ => np_guard fun hb => np_bind (np_decSubframes p _ _ _ (Nat.le_of_not_gt hb) _ _ _) fun _ =>
      np_bind (np_recorrelate p _ _ _) fun _ => np_bind (pnp_closed.readU 16 _) fun _ => np_guard fun _ => np_ok _

theorem np_parseHeaderBytes (si : Option SInfo) (bytes : List Nat) : NoPanic (parseHeaderBytes si bytes) := by
  unfold parseHeaderBytes
  split
  · exact (pnp_closed.readHeaderFields si _).error ‹_›
  · exact np_ok _

/-- the stream reader never panics either: every result of one `read()` is a frame or an error -/
theorem stream_read_no_panic (p : Profile) (fuel : Nat) (bytes : List Nat) :
    ∀ s, (streamReadOne p fuel bytes).1 ≠ .fail (.panic s) := by
  fun_induction streamReadOne p fuel bytes <;> intro s
  -- the scan goes on behind a byte that is no sync code (case3) or a header that does not parse (case4)
  case case3 ih | case4 ih => exact ih s
  -- `decodeFrame` failed: the `.error (.panic s)` arm (case6) is never taken, the arm of the other errors (case7) hands on
  -- what `decodeFrame` gave
  case case6 s' hd => exact absurd hd (decode_no_panic p none _ s')
  case case7 hd => exact fun hc => (decode_no_panic p none _).ne_panic hd s (ReadResult.fail.inj hc)
  -- out of fuel or of bytes (case1, case2): end of data; case5: a frame
  all_goals nofun

/-- and the file readers' frame loop: with the accounting rule (`TooManySamples`) the subtraction
    `total − current_sample` cannot underflow, and every frame goes through `decodeFrame` -/
theorem file_loop_no_panic (p : Profile) (si : SInfo) (total fuel : Nat) (bytes : List Nat) (cur : Nat)
    (acc : List (List (List Int))) (hcur : total = 0 ∨ cur ≤ total) :
    ∀ s, (decodeLoop p si total fuel bytes cur acc).2 ≠ some (.panic s) := by
  fun_induction decodeLoop p si total fuel bytes cur acc <;> intro s
  -- the one panic site, `total - current_sample`: out of reach because the loop keeps `cur ≤ total`
  case case2 ht h => simp only [bne_iff_ne, Bool.and_eq_true, decide_eq_true_eq] at ht h; omega
  -- an error handed on from the header parser (declared / undeclared total), the STREAMINFO check, `decodeFrame`
  case case4 he | case13 he => exact fun hc => (np_parseHeaderBytes _ _).ne_panic he s (Option.some.inj hc)
  case case5 he => exact fun hc => (np_checkStreaminfo _ _).ne_panic he s (Option.some.inj hc)
  case case9 he | case14 he => exact fun hc => (decode_no_panic p _ _).ne_panic he s (Option.some.inj hc)
  -- declared total, a frame delivered: the accepted block keeps `cur ≤ total`
  case case10 ih =>
    refine ih (.inr ?_) s
    simp only [show decOvershootIsError = true from rfl, Bool.true_and, Bool.and_eq_true, decide_eq_true_eq, bne_iff_ne, ne_eq] at *
    omega
  -- undeclared total, a frame delivered
  case case15 ih => exact ih (.inl (by simp_all)) s
  -- the other leaves end the loop without an error or with a literal one: no fuel, total reached, clean end of data
  all_goals nofun

end Flac.C04
