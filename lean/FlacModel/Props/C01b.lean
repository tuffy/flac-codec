/-
  Props/C01b.lean — C01 at the level of whole frames (the case without STREAMINFO is what `C16.written_frame_standalone` uses):
  the frame format is a bijection on well-formed frames (`Proofs/Codec.lean`), and what the encoder's
  residual / wasted-bit / stereo kernels produce is restored exactly by the decoder, for EVERY choice of
  predictor, shift, partitioning and Rice parameters (the floating-point analysis never enters).
  The subframe statements (`*_restores`) and `recorrelate_stereo` are about the decoder's `i32` path (`decodeSub p 32`, `bps < 32`);
  the `i64` path, taken for the 33-bit side channel of 32-bit stereo (`subWidth = 64`), is not covered by them.
-/
import FlacModel.Props.C01
import FlacModel.Proofs.Codec
import FlacModel.Proofs.CodecB
import FlacModel.Proofs.DecodeFacts

namespace Flac.C01
open Flac Gen

/-- **Frame round trip.**  For every well-formed frame `f` (any header the format can express, any number of
    subframes of any of the four kinds, any partitioning, any padding), in both build profiles and with or
    without a STREAMINFO context: the streaming decoder, run on the serialized bytes, consumes exactly those
    bytes, accepts both checksums, and returns the header and exactly the samples the subframes expand to. -/
theorem frame_roundtrip (p : Profile) (si : Option SInfo) (f : Frame) (xss out : List (List Int))
    (w : FrameWf si f)
    (hx : subsDecode p f.hdr.assign f.hdr.blockSize f.hdr.bps f.subs xss 0)
    (hr : recorrelate p f.hdr.assign f.hdr.bps xss = .ok out) :
    decodeFrame p si f.serialize = .ok { hdr := f.hdr, channels := out, used := f.serialize.length } :=
  decodeFrame_serialize p si f xss out w hx hr

/-- the same with the executable well-formedness test the driver runs on every frame the real encoder emits -/
theorem frame_roundtrip_checked (p : Profile) (si : Option SInfo) (f : Frame) (xss out : List (List Int))
    (w : frameWfB si f = true)
    (hx : subsDecode p f.hdr.assign f.hdr.blockSize f.hdr.bps f.subs xss 0)
    (hr : recorrelate p f.hdr.assign f.hdr.bps xss = .ok out) :
    decodeFrame p si f.serialize = .ok { hdr := f.hdr, channels := out, used := f.serialize.length } :=
  frame_roundtrip p si f xss out (frameWfB_sound si f w) hx hr

/-! ### what each kind of subframe the encoder can emit expands to -/

theorem constant_restores (p : Profile) (w bs : Nat) (v : Int) :
    decodeSub p w bs { wasted := 0, body := .constant v } = .ok (List.replicate bs v) :=
  decodeSub_zero p w bs _

theorem verbatim_restores (p : Profile) (w bs : Nat) (xs : List Int) :
    decodeSub p w bs { wasted := 0, body := .verbatim xs } = .ok xs :=
  decodeSub_zero p w bs _

/-- an LPC subframe built from ANY quantised coefficients and shift: if the encoder's residual loop succeeds on
    the channel, the decoder restores the channel from warm-up + residuals, however they were partitioned -/
theorem lpc_restores (p : Profile) (bs prec shift : Nat) (coefs channel : List Int) (res : Residual)
    (hs : shift < 64) (hc : ∀ c ∈ coefs, fitsS 16 c = true) (hl : coefs.length ≤ 32)
    (hx : ∀ x ∈ channel, fitsS 32 x = true)
    (h : encLpcResiduals coefs shift channel = some res.residuals) :
    decodeSub p 32 bs { wasted := 0, body := .lpc coefs.length (channel.take coefs.length) prec shift coefs res } = .ok channel :=
  (decodeSub_zero p 32 bs _).trans (predict_restore p coefs shift hs hc hl channel res.residuals hx h)

/-- a FIXED subframe of order `o ≤ 4` -/
theorem fixed_restores (p : Profile) (bs o : Nat) (ho : o ≤ 4) (channel : List Int) (res : Residual)
    (hx : ∀ x ∈ channel, fitsS 32 x = true)
    (h : encLpcResiduals (fixedCoeffs.getD o []) 0 channel = some res.residuals) :
    decodeSub p 32 bs { wasted := 0, body := .fixed o (channel.take o) res } = .ok channel := by
  obtain ⟨h1, h2, h3⟩ := fixedCoeffs_ok o
  -- `decodeSub` expands it as the LPC subframe with the coefficients of order `o` and shift 0
  have := lpc_restores p bs 0 0 (fixedCoeffs.getD o []) channel res (by decide) h1 h2 hx h
  rwa [h3 ho] at this

/-- wasted bits: a subframe that expands to `ys` expands, with `w` wasted bits, to `ys` shifted back -/
theorem wasted_restores (p : Profile) (bs w : Nat) (hw0 : 0 < w) (hw : w < 32) (body : SubBody) (ys : List Int)
    (h : decodeSub p 32 bs { wasted := 0, body := body } = .ok ys)
    (hy : ∀ y ∈ ys, fitsS 32 (y * 2 ^ w) = true) :
    decodeSub p 32 bs { wasted := w, body := body } = .ok (ys.map (· * 2 ^ w)) := by
  rw [decodeSub_zero] at h
  rw [decodeSub_eq, h]
  exact (if_pos hw0).trans (mapM'_wasted p w hw ys hy)

/-- one induction for the three modes (`zipWithM_map`): the decorrelated channels are images of `l.zip r`, and a kernel that
    undoes the decorrelation of every pair of 31-bit samples undoes it on the channels -/
theorem zip_pairs {α : Type} (f : Int → Int → Res α) (u v : Int × Int → Int) (g : Int × Int → α)
    (l r : List Int) (hl : ∀ x ∈ l, fitsS 31 x = true) (hr : ∀ x ∈ r, fitsS 31 x = true)
    (hf : ∀ a b, fitsS 31 a = true → fitsS 31 b = true → f (u (a, b)) (v (a, b)) = .ok (g (a, b))) :
    zipWithM f ((l.zip r).map u) ((l.zip r).map v) = .ok ((l.zip r).map g) :=
  zipWithM_map f u v g _ fun q hq => hf q.1 q.2 (hl _ (List.of_mem_zip hq).1) (hr _ (List.of_mem_zip hq).2)

theorem zip_leftside (p : Profile) (l r : List Int) (hlen : l.length = r.length)
    (hl : ∀ x ∈ l, fitsS 31 x = true) (hr : ∀ x ∈ r, fitsS 31 x = true) :
    zipWithM (decLeftSide p) l (List.zipWith (· - ·) l r) = .ok r := by
  have := zip_pairs (decLeftSide p) Prod.fst (fun q => q.1 - q.2) Prod.snd l r hl hr
    fun a b ha hb => (stereo_leftside_inverse p a b ha hb).2
  rwa [List.map_fst_zip (Nat.le_of_eq hlen), List.map_snd_zip (Nat.le_of_eq hlen.symm), List.map_zip_eq_zipWith] at this

theorem zip_sideright (p : Profile) (l r : List Int) (hlen : l.length = r.length)
    (hl : ∀ x ∈ l, fitsS 31 x = true) (hr : ∀ x ∈ r, fitsS 31 x = true) :
    zipWithM (decSideRight p) (List.zipWith (· - ·) l r) r = .ok l := by
  have := zip_pairs (decSideRight p) (fun q => q.1 - q.2) Prod.snd Prod.fst l r hl hr (stereo_sideright_inverse p)
  rwa [List.map_fst_zip (Nat.le_of_eq hlen), List.map_snd_zip (Nat.le_of_eq hlen.symm), List.map_zip_eq_zipWith] at this

theorem zip_midside (p : Profile) (l r : List Int) (hl : ∀ x ∈ l, fitsS 31 x = true) (hr : ∀ x ∈ r, fitsS 31 x = true) :
    zipWithM (midSide32 p) (List.zipWith (fun a b => (a + b) / 2) l r) (List.zipWith (· - ·) l r) = .ok (List.zip l r) := by
  have := zip_pairs (midSide32 p) (fun q => (q.1 + q.2) / 2) (fun q => q.1 - q.2) id l r hl hr
    fun a b ha hb => (stereo_midside_inverse p a b ha hb).2
  rwa [List.map_id, List.map_zip_eq_zipWith, List.map_zip_eq_zipWith] at this

/-- **Stereo decorrelation is undone exactly**, in all three modes, for every pair of equally long channels of
    depth ≤ 31 bits (`bps < 32`), in both profiles. -/
theorem recorrelate_stereo (p : Profile) (bps : Nat) (hb : bps < 32) (l r : List Int) (hlen : l.length = r.length)
    (hl : ∀ x ∈ l, fitsS 31 x = true) (hr : ∀ x ∈ r, fitsS 31 x = true) :
    recorrelate p .leftSide bps [l, List.zipWith (· - ·) l r] = .ok [l, r]
    ∧ recorrelate p .sideRight bps [List.zipWith (· - ·) l r, r] = .ok [l, r]
    ∧ recorrelate p .midSide bps [List.zipWith (fun a b => (a + b) / 2) l r, List.zipWith (· - ·) l r] = .ok [l, r] := by
  refine ⟨?_, ?_, ?_⟩
  · simp only [recorrelate, hb, if_true, zip_leftside p l r hlen hl hr]
  · simp only [recorrelate, hb, if_true, zip_sideright p l r hlen hl hr]
  · simp only [recorrelate, hb, if_true, zip_midside p l r hl hr]
    rw [List.map_fst_zip (Nat.le_of_eq hlen), List.map_snd_zip (Nat.le_of_eq hlen.symm)]

/-- **Lossless, independent channels.**  A well-formed frame with independent channel assignment decodes to
    exactly the samples its subframes expand to. -/
theorem lossless_independent (p : Profile) (si : Option SInfo) (f : Frame) (n : Nat) (xss : List (List Int))
    (w : FrameWf si f) (ha : f.hdr.assign = .indep n)
    (hx : subsDecode p f.hdr.assign f.hdr.blockSize f.hdr.bps f.subs xss 0) :
    decodeFrame p si f.serialize = .ok { hdr := f.hdr, channels := xss, used := f.serialize.length } :=
  frame_roundtrip p si f xss xss w hx (by rw [ha]; rfl)

/-- **Lossless, stereo.**  A well-formed two-channel frame whose subframes expand to the decorrelated pair the
    encoder computes from `(l, r)` (whichever of the three modes it chose) decodes to exactly `[l, r]`. -/
theorem lossless_stereo (p : Profile) (si : Option SInfo) (f : Frame) (l r : List Int) (xss : List (List Int))
    (w : FrameWf si f) (hb : f.hdr.bps < 32) (hlen : l.length = r.length)
    (hl : ∀ x ∈ l, fitsS 31 x = true) (hr : ∀ x ∈ r, fitsS 31 x = true)
    (hx : subsDecode p f.hdr.assign f.hdr.blockSize f.hdr.bps f.subs xss 0)
    (hmode : (f.hdr.assign = .leftSide ∧ xss = [l, List.zipWith (· - ·) l r])
      ∨ (f.hdr.assign = .sideRight ∧ xss = [List.zipWith (· - ·) l r, r])
      ∨ (f.hdr.assign = .midSide ∧ xss = [List.zipWith (fun a b => (a + b) / 2) l r, List.zipWith (· - ·) l r])) :
    decodeFrame p si f.serialize = .ok { hdr := f.hdr, channels := [l, r], used := f.serialize.length } := by
  obtain ⟨h1, h2, h3⟩ := recorrelate_stereo p f.hdr.bps hb l r hlen hl hr
  rcases hmode with ⟨ha, hxs⟩ | ⟨ha, hxs⟩ | ⟨ha, hxs⟩
  · exact frame_roundtrip p si f xss _ w hx (by rw [ha, hxs]; exact h1)
  · exact frame_roundtrip p si f xss _ w hx (by rw [ha, hxs]; exact h2)
  · exact frame_roundtrip p si f xss _ w hx (by rw [ha, hxs]; exact h3)

/-- the frame a byte string parses to, if it parses with both checksums valid -/
def frameOf (bytes : List Nat) : Option Frame :=
  match parseFrame decLayout true none bytes with
  | .ok pr => if pr.crc8ok && pr.crc16ok && pr.used == bytes.length then some pr.frame else none
  | .error _ => none

/-- non-vacuity: a concrete frame (mono, 16 bit, one CONSTANT sample) is in the domain of the theorem and is the
    serialization of its parse -/
example : (match frameOf [255, 248, 105, 8, 0, 0, 29, 0, 0, 0, 160, 39] with
    | some f => frameWfB none f && (f.serialize == [255, 248, 105, 8, 0, 0, 29, 0, 0, 0, 160, 39])
    | none => false) = true := by decide +kernel

/-- non-vacuity on a frame the real encoder produced (12 stereo samples at 16 bits, `lpc=2`, mid/side allowed: bytes
    `fff86988000b2717803200dc02940229614d0d0c24000a00cc882e12a4a92ad682`): its parse is in the domain of the theorem, it is the serialization of its parse, and the decoder model
    returns the samples that were encoded -/
example : (match frameOf [255, 248, 105, 136, 0, 11, 39, 23, 128, 50, 0, 220, 2, 148, 2, 41, 97, 77, 13, 12, 36, 0, 10, 0, 204, 136, 46, 18, 164, 169, 42, 214, 130] with
    | some f => frameWfB none f && (f.serialize == [255, 248, 105, 136, 0, 11, 39, 23, 128, 50, 0, 220, 2, 148, 2, 41, 97, 77, 13, 12, 36, 0, 10, 0, 204, 136, 46, 18, 164, 169, 42, 214, 130])
        && (match decodeFrame .release none [255, 248, 105, 136, 0, 11, 39, 23, 128, 50, 0, 220, 2, 148, 2, 41, 97, 77, 13, 12, 36, 0, 10, 0, 204, 136, 46, 18, 164, 169, 42, 214, 130] with
            | .ok d => d.channels == [[100, 220, 330, 420, 480, 510, 500, 460, 390, 300, 190, 70], [90, 200, 310, 400, 470, 500, 495, 450, 385, 290, 185, 60]]
            | .error _ => false)
    | none => false) = true := by decide +kernel

end Flac.C01
