/-
  Props/C15b.lean — C15, "partition orders to 15 … yield a writer that works": whatever `max_partition_order` a writer was
  built with, the partitionings `write_residuals` tries never exceed the capacity of the fixed-size vector that holds one
  (`ArrayVec<_, MAX_PARTITIONS>`), so the documented values 7 … 15 cannot overflow it.
-/
import FlacModel.Props.C15
import FlacModel.Gen.KernelsEnc

namespace Flac.C15
open Flac Flac.Gen

/-- the partition orders `best_partitions` tries for a block whose size has `tz` trailing zero bits:
    `0 ..= tz.min(max_partition_order)[.min(MAX_PARTITIONS.ilog2())]` — whether the last clamp is there is regenerated from the source -/
def candidateOrders (tz maxPo : Nat) : List Nat :=
  List.range (min (min tz maxPo) (if encPartitionOrderCapped then Nat.log2 encMaxPartitions else maxPo) + 1)

/-- **no candidate partitioning exceeds the vector's capacity**, for every block size and every accepted `max_partition_order` -/
theorem candidates_fit (tz maxPo po : Nat) (h : po ∈ candidateOrders tz maxPo) : 2 ^ po ≤ encMaxPartitions := by
  simp only [candidateOrders, List.mem_range, show encPartitionOrderCapped = true from rfl, if_true] at h
  -- `po ≤ ilog2(MAX_PARTITIONS)`, and `2 ^ ilog2 m ≤ m`
  exact Nat.le_trans (Nat.pow_le_pow_right (by decide) (by omega)) (Nat.log2_self_le (by decide))

/-- order 0 (one partition) is always tried, so there is always a candidate -/
theorem candidates_nonempty (tz maxPo : Nat) : 0 ∈ candidateOrders tz maxPo := by
  simp [candidateOrders]

/-- non-vacuity: a 4096-sample block with the documented maximum 15 tries orders 0 … 6 -/
example : candidateOrders 12 15 = [0, 1, 2, 3, 4, 5, 6] := by decide

end Flac.C15
