/-
  Props/C13b.lean — the checksummed write path of the encoder (C13, "short writes" clause): whatever the
  underlying stream does on each call (fail, interrupt, accept 1 … all bytes), the checksum a `CrcWriter`
  carries is the checksum of exactly the bytes that reached the stream, so a frame whose writes all
  succeeded is on the stream complete, followed by the checksum of what precedes it — i.e. valid.
-/
import FlacModel.Model.CrcIo
import FlacModel.Props.C13
import FlacModel.Proofs.CrcSelf

namespace Flac.C13
open Flac.Io Flac.Gen

/-- the generated rule: of the offered bytes, exactly the accepted ones are folded -/
theorem folded_accepted (l n : Nat) : crcWriterFolded l n = n := rfl
theorem folded_delivered (l n : Nat) : crcReaderFolded l n = n := rfl

/-- the invariant of a `CrcWriter` created on a stream that held `s0`: its checksum is the checksum of everything that
    reached the stream since -/
def CwInv {α : Type} (upd : α → Nat → α) (init : α) (s0 : List Nat) (w : CW α) : Prop :=
  ∃ d, w.inner.data = s0 ++ d ∧ w.sum = d.foldl upd init

theorem cwWrite_spec {α : Type} (upd : α → Nat → α) (ev : Nat → Ev) (w : CW α) (bs : List Nat) :
    sinkWrite ev w.inner bs = ((cwWrite upd ev w bs).1.inner, (cwWrite upd ev w bs).2)
    ∧ ∀ init s0, CwInv upd init s0 w → CwInv upd init s0 (cwWrite upd ev w bs).1 := by
  unfold cwWrite sinkWrite
  cases ev w.inner.calls with
  | fail => exact ⟨rfl, fun _ _ h => h⟩
  | intr => exact ⟨rfl, fun _ _ h => h⟩
  | take k =>
    refine ⟨rfl, fun init s0 ⟨d, hd, hs⟩ => ⟨d ++ bs.take (k + 1), ?_, ?_⟩⟩
    · dsimp only; rw [hd, List.append_assoc]
    · dsimp only; rw [folded_accepted, hs, List.foldl_append, ← List.take_eq_take_min]

/-- `write_all` through the `CrcWriter`, for every schedule: the stream, what is left over and the result are those of `write_all`
    on the stream itself, and the checksum stays that of what was delivered -/
theorem cwWriteAll_spec {α : Type} (upd : α → Nat → α) (ev : Nat → Ev) (fuel : Nat) (w : CW α) (bs : List Nat) :
    sinkWriteAll ev fuel w.inner bs = ((cwWriteAll upd ev fuel w bs).1.inner, (cwWriteAll upd ev fuel w bs).2)
    ∧ ∀ init s0, CwInv upd init s0 w → CwInv upd init s0 (cwWriteAll upd ev fuel w bs).1 := by
  induction fuel generalizing w bs with
  | zero => exact ⟨rfl, fun _ _ h => h⟩
  | succ fuel ih =>
    rw [cwWriteAll, sinkWriteAll]
    by_cases he : bs.isEmpty
    · rw [if_pos he, if_pos he]
      exact ⟨rfl, fun _ _ h => h⟩
    · obtain ⟨h1, h2⟩ := cwWrite_spec upd ev w bs
      rw [if_neg he, if_neg he, h1]
      generalize cwWrite upd ev w bs = o at h2 ⊢
      obtain ⟨w', n | _ | _⟩ := o
      · dsimp only
        by_cases h0 : n == 0
        · rw [if_pos h0, if_pos h0]
          exact ⟨rfl, h2⟩
        · rw [if_neg h0, if_neg h0]
          exact ⟨(ih w' _).1, fun init s0 h => (ih w' _).2 init s0 (h2 init s0 h)⟩
      · exact ⟨(ih w' bs).1, fun init s0 h => (ih w' bs).2 init s0 (h2 init s0 h)⟩
      · exact ⟨rfl, h2⟩

/-- the pieces through the `CrcWriter` are the pieces written straight to the stream (`writeDirect`), the checksum following -/
theorem cwWriteChunks_direct {α : Type} (upd : α → Nat → α) (ev : Nat → Ev) (fuel : Nat) (w : CW α) (chunks : List (List Nat)) :
    writeDirect ev fuel w.inner chunks = ((cwWriteChunks upd ev fuel w chunks).1.inner, (cwWriteChunks upd ev fuel w chunks).2)
    ∧ ∀ init s0, CwInv upd init s0 w → CwInv upd init s0 (cwWriteChunks upd ev fuel w chunks).1 := by
  fun_induction cwWriteChunks upd ev fuel w chunks
  case case1 w => exact ⟨rfl, fun _ _ h => h⟩
  case case2 w c r w1 rest hw =>
    obtain ⟨h1, h2⟩ := cwWriteAll_spec upd ev fuel w c
    rw [hw] at h1 h2
    exact ⟨by rw [writeDirect, h1], h2⟩
  case case3 w c r w1 rest hw ih =>
    obtain ⟨h1, h2⟩ := cwWriteAll_spec upd ev fuel w c
    rw [hw] at h1 h2
    exact ⟨by rw [writeDirect, h1]; exact ih.1, fun init s0 h => ih.2 init s0 (h2 init s0 h)⟩

/-- **The checksum follows the stream, not the caller**: after any number of pieces, under any schedule and whether or
    not the writes succeeded, the carried checksum is that of the bytes delivered; on success those are all the pieces. -/
theorem cwChunks_spec {α : Type} (upd : α → Nat → α) (init : α) (ev : Nat → Ev) (fuel : Nat) (s0 : List Nat)
    (chunks : List (List Nat)) (w : CW α) (h : CwInv upd init s0 w) :
    ∀ w' ok, cwWriteChunks upd ev fuel w chunks = (w', ok) →
      CwInv upd init s0 w' ∧ (ok = true → w'.inner.data = w.inner.data ++ chunks.flatten) := by
  intro w' ok hc
  obtain ⟨h1, h2⟩ := cwWriteChunks_direct upd ev fuel w chunks
  rw [hc] at h1 h2
  exact ⟨h2 init s0 h, fun hok => direct_ok_delivers ev fuel chunks _ _ (hok ▸ h1)⟩

/-- one frame, whatever the result: the stream only grew; on success, by the frame followed by the checksum of its own bytes -/
theorem cwFrame_spec {α : Type} (upd : α → Nat → α) (init : α) (fin : α → List Nat) (ev : Nat → Ev) (fuel : Nat)
    (s s' : Sink) (chunks : List (List Nat)) (ok : Bool) (h : cwFrame upd init fin ev fuel s chunks = (s', ok)) :
    ∃ d, s'.data = s.data ++ d ∧ (ok = true → d = chunks.flatten ++ fin (chunks.flatten.foldl upd init)) := by
  have hchunks := cwChunks_spec upd init ev fuel s.data chunks ⟨s, init⟩ ⟨[], (List.append_nil _).symm, rfl⟩
  revert h
  fun_cases cwFrame upd init fin ev fuel s chunks
  case case1 w hc =>
    rintro ⟨⟩
    obtain ⟨⟨d, hd, _⟩, _⟩ := hchunks w false hc
    exact ⟨d, hd, nofun⟩
  case case2 w hc s1 rest ok' hw =>
    rintro ⟨⟩
    obtain ⟨⟨d, hd, hs⟩, hk⟩ := hchunks w true hc
    obtain rfl : d = chunks.flatten := List.append_cancel_left (hd.symm.trans (hk rfl))
    obtain ⟨⟨wr, h1, h2⟩, h3⟩ := sinkWriteAll_spec ev fuel w.inner (fin w.sum)
    rw [hw] at h1 h2 h3
    refine ⟨chunks.flatten ++ wr, by rw [h1, hd, List.append_assoc], fun hok => ?_⟩
    rw [← hs, ← h2, h3 hok, List.append_nil]

/-- **A frame reported written is on the stream whole, with the checksum of its own bytes** — for every behaviour of
    the stream, short writes included. -/
theorem frame_ok_delivers {α : Type} (upd : α → Nat → α) (init : α) (fin : α → List Nat) (ev : Nat → Ev) (fuel : Nat)
    (s s' : Sink) (chunks : List (List Nat)) (h : cwFrame upd init fin ev fuel s chunks = (s', true)) :
    s'.data = s.data ++ chunks.flatten ++ fin (chunks.flatten.foldl upd init) := by
  obtain ⟨d, hd, hk⟩ := cwFrame_spec upd init fin ev fuel s s' chunks true h
  rw [hd, hk rfl, List.append_assoc]

/-- a frame that failed left on the stream a prefix of what a successful one would have left -/
theorem frame_failed_prefix {α : Type} (upd : α → Nat → α) (init : α) (fin : α → List Nat) (ev : Nat → Ev) (fuel : Nat)
    (s s' : Sink) (chunks : List (List Nat)) (ok : Bool) (h : cwFrame upd init fin ev fuel s chunks = (s', ok)) :
    ∃ d, s'.data = s.data ++ d :=
  let ⟨d, hd, _⟩ := cwFrame_spec upd init fin ev fuel s s' chunks ok h
  ⟨d, hd⟩

/-- a run of frames: success means all of them arrived, one after the other, each with its checksum -/
theorem frames_ok_deliver {α : Type} (upd : α → Nat → α) (init : α) (fin : α → List Nat) (ev : Nat → Ev) (fuel : Nat)
    (frames : List (List (List Nat))) (s s' : Sink) (h : cwFrames upd init fin ev fuel s frames = (s', true)) :
    s'.data = s.data ++ (frames.map fun f => f.flatten ++ fin (f.flatten.foldl upd init)).flatten := by
  revert h
  fun_induction cwFrames upd init fin ev fuel s frames
  case case1 s => rintro ⟨⟩; exact (List.append_nil _).symm
  case case2 s f r s1 hf => exact nofun
  case case3 s f r s1 hf ih =>
    intro h
    rw [ih h, frame_ok_delivers upd init fin ev fuel s s1 f hf]
    simp only [List.map_cons, List.flatten_cons, List.append_assoc]

/-- the two big-endian bytes of a CRC-16 -/
def crc16Bytes (c : Nat) : List Nat := [c / 256, c % 256]

/-- **With the crate's CRC-16**: every frame reported written, under every schedule, is on the stream as bytes whose
    CRC-16 over the whole frame is zero — the test every FLAC decoder applies. -/
theorem frame_ok_crc16_valid (ev : Nat → Ev) (fuel : Nat) (s s' : Sink) (chunks : List (List Nat))
    (h : cwFrame crc16Update 0 crc16Bytes ev fuel s chunks = (s', true)) :
    ∃ frame, s'.data = s.data ++ frame ∧ frame = chunks.flatten ++ crc16Bytes (crc16 chunks.flatten) ∧ crc16 frame = 0 := by
  refine ⟨_, ?_, rfl, crc16_self _⟩
  rw [frame_ok_delivers _ _ _ ev fuel s s' chunks h, List.append_assoc]
  rfl

/-- the frame header's CRC-8 is written the same way (`FrameHeader::write`) -/
theorem header_ok_crc8_valid (ev : Nat → Ev) (fuel : Nat) (s s' : Sink) (chunks : List (List Nat))
    (h : cwFrame crc8Update 0 (fun c => [c]) ev fuel s chunks = (s', true)) :
    ∃ hdr, s'.data = s.data ++ hdr ∧ crc8 hdr = 0 := by
  refine ⟨_, ?_, crc8_self chunks.flatten⟩
  rw [frame_ok_delivers _ _ _ ev fuel s s' chunks h, List.append_assoc]
  rfl

/-- **`CrcReader`**: whatever sizes the wrapped reader delivers its bytes in, the checksum is that of the bytes delivered, in order -/
theorem reads_checksum {α : Type} (upd : α → Nat → α) (sum : α) (hist : List (Nat × List Nat))
    (hfit : ∀ p ∈ hist, p.2.length ≤ p.1) :
    crReads upd sum hist = (hist.map (·.2)).flatten.foldl upd sum := by
  -- `crRead` folds the delivered bytes whether or not they fit the buffer
  clear hfit
  induction hist generalizing sum with
  | nil => rfl
  | cons p r ih =>
    obtain ⟨want, got⟩ := p
    rw [crReads, ih, List.map_cons, List.flatten_cons, List.foldl_append, crRead, folded_delivered, List.take_left]

/-- non-vacuity: a sink that takes one byte per call, interrupted now and then, still ends with a valid frame -/
-- `+kernel`: evaluated by the kernel only; the elaborator's own evaluation of the loop costs more than the kernel's
example : (cwFrame crc16Update 0 crc16Bytes (fun n => if n % 3 == 1 then .intr else .take 0) 60 { data := [7] } [[255, 248, 1], [2, 3]]).2 = true := by decide +kernel
example : crc16 ((cwFrame crc16Update 0 crc16Bytes (fun n => if n % 3 == 1 then .intr else .take 0) 60 { data := [] } [[255, 248, 1], [2, 3]]).1.data) = 0 := by decide +kernel

end Flac.C13
