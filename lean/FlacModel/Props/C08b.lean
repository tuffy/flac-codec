/-
  Props/C08b.lean — C08, "whichever writer front-end and byte order supplied it": the byte front-end, fed with
  the samples serialised in either byte order and split into write calls anywhere (mid-sample included), hands the
  encoder the same blocks of samples and the MD5 the same bytes as the sample front-end does.

  Two facts carry it: a sample in range comes back from its bytes in either order (`byteSample_serialized`), and serialising at a
  constant `n` units per element commutes with the writer's blocking (`finalize_foldl_serialized`, for any element type).
-/
import FlacModel.Model.ByteFront
import FlacModel.Props.C08
import FlacModel.Props.C07
import FlacModel.Proofs.ListAux
import FlacModel.Proofs.Bits

namespace Flac.C08
open Flac Flac.Gen

def inRange (n : Nat) (x : Int) : Prop := -(2 ^ (8 * n - 1) : Int) ≤ x ∧ x < (2 ^ (8 * n - 1) : Int)

/-- on the 24-bit range the unsigned value `i24_to_bytes` emits is two's complement -/
theorem i24_unsigned (x : Int) (h : inRange 3 x) :
    (i24ToUnsigned x : Int) = if x < 0 then x + 16777216 else x := by
  obtain ⟨h1, h2⟩ := h
  simp only [show (8 * 3 - 1) = 23 from rfl] at h1 h2
  unfold i24ToUnsigned
  -- in range the reduction mod 2³² does nothing
  by_cases hx : x < 0
  · rw [if_neg (by omega), if_pos hx, Int.emod_eq_of_lt (by omega) (by omega), lor_two_pow (k := 23) (by omega)]
    omega
  · rw [if_pos (by omega), if_neg hx, Int.emod_eq_of_lt (by omega) (by omega)]
    omega

theorem i24_back (u : Nat) (h : u < 16777216) :
    i24OfUnsigned u = if u < 8388608 then (u : Int) else (u : Int) - 16777216 := by
  unfold i24OfUnsigned
  rw [show Nat.land u 8388608 = (u / 8388608 % 2) * 8388608 from and_two_pow u 23,
    show Nat.land u 8388607 = u % 8388608 from Nat.and_two_pow_sub_one_eq_mod u 23]
  by_cases hlt : u < 8388608
  · rw [if_pos hlt, if_pos (by simp; omega)]
  · rw [if_neg hlt, if_neg (by simp; omega)]
    omega

/-- the `n` little-endian base-256 digits of `u` have the value `u mod 256ⁿ`, for negative `u` too -/
theorem leValue_digits (n : Nat) (u : Int) :
    (leValue ((List.range n).map fun i => ((u / (256 : Int) ^ i) % 256).toNat) : Int) = u % 256 ^ n := by
  induction n generalizing u with
  | zero => simp [leValue, Int.emod_one]
  | succ n ih =>
    have hdig : (fun i => ((u / (256 : Int) ^ (i + 1)) % 256).toNat) = fun i => ((u / 256 / (256 : Int) ^ i) % 256).toNat := by
      funext i; rw [Int.ediv_ediv_of_nonneg (by omega), Int.pow_succ, Int.mul_comm]
    rw [List.range_succ_eq_map, List.map_cons, List.map_map]
    simp only [Function.comp_def, Nat.succ_eq_add_one, hdig, leValue, Int.pow_zero, Int.ediv_one]
    rw [Int.pow_succ, Int.mul_comm, emod_mul u (by omega), ← ih (u / 256)]
    omega

theorem sampleBytes_LE (n : Nat) (h3 : n ≠ 3) (x : Int) :
    sampleBytes n false x = (List.range n).map fun i => ((x / (256 : Int) ^ i) % 256).toNat := by
  simp [sampleBytes, h3]

/-- three bytes: the digits of the regenerated `i24_to_bytes` value (the hand-written rule in `sampleBytes` is that function) -/
theorem sampleBytes_LE3 (x : Int) (h : x < 4294967296) :
    sampleBytes 3 false x = (List.range 3).map fun i => (((i24ToUnsigned x : Int) / (256 : Int) ^ i) % 256).toNat := by
  have hu : (if x < 0 then Int.ofNat (Nat.lor 8388608 ((x + 8388608) % 4294967296).toNat) else x) = (i24ToUnsigned x : Int) := by
    unfold i24ToUnsigned
    by_cases hx : x < 0
    · rw [if_pos hx, if_neg (by omega)]; rfl
    · rw [if_neg hx, if_pos (by omega)]; omega
  simp only [sampleBytes, BEq.rfl, Bool.true_and, decide_eq_true_eq, Bool.false_eq_true, if_false, hu]

/-- the little-endian bytes of a sample in range are those of its residue mod `256ⁿ` (`leValue_digits`, `emod_two_mul`); for three bytes
    the crate's own rule gives the same value (`i24_unsigned`) -/
theorem leValue_sampleBytes (n : Nat) (hn : 1 ≤ n) (x : Int) (h : inRange n x) :
    (leValue (sampleBytes n false x) : Int) = if x < 0 then x + 2 * 2 ^ (8 * n - 1) else x := by
  obtain ⟨h1, h2⟩ := h
  by_cases h3 : n = 3
  · subst h3
    have hu := i24_unsigned x ⟨h1, h2⟩
    simp only [show (8 * 3 - 1) = 23 from rfl] at h1 h2 ⊢
    rw [sampleBytes_LE3 x (by omega), leValue_digits, Int.emod_eq_of_lt (by split at hu <;> omega) (by split at hu <;> omega), hu]
    rfl
  · rw [sampleBytes_LE n h3, leValue_digits, pow256_eq_two_mul n hn, emod_two_mul _ x h1 h2]

/-- `LittleEndian::bytes_to_iN` reads two's complement, the crate's rule for three bytes included (`i24_back`) -/
theorem sampleOfLE_eq (c : List Nat) (h : leValue c < 256 ^ c.length) :
    sampleOfLE c = if 2 * leValue c < 256 ^ c.length then (leValue c : Int) else (leValue c : Int) - (256 ^ c.length : Nat) := by
  unfold sampleOfLE
  by_cases h3 : c.length = 3
  · rw [h3] at h ⊢
    rw [if_pos (beq_self_eq_true _), i24_back _ h]
    split <;> split <;> omega
  · rw [if_neg (by simpa using h3)]
    split <;> split <;> omega

theorem sampleBytes_length (n : Nat) (be : Bool) (x : Int) : (sampleBytes n be x).length = n := by
  unfold sampleBytes
  cases be <;> simp

/-- `LittleEndian::bytes_to_iN ∘ LittleEndian::iN_to_bytes = id` on the range of `n` bytes, for every width `n ≥ 1` -/
theorem sampleOfLE_sampleBytes (n : Nat) (hn : 1 ≤ n) (x : Int) (h : inRange n x) :
    sampleOfLE (sampleBytes n false x) = x := by
  have hw := leValue_sampleBytes n hn x h
  have hM : ((256 ^ n : Nat) : Int) = 2 * 2 ^ (8 * n - 1) := by rw [← pow256_eq_two_mul n hn]; simp
  obtain ⟨h1, h2⟩ := h
  rw [sampleOfLE_eq _ (by rw [sampleBytes_length]; split at hw <;> omega), sampleBytes_length]
  split at hw <;> split <;> omega

/-- converting the caller's bytes to little-endian gives the little-endian serialisation -/
theorem toLE_sampleBytes (n : Nat) (be : Bool) (x : Int) : toLE be (sampleBytes n be x) = sampleBytes n false x := by
  cases be
  · simp [toLE, bytesToLeKeepsLE]
  · simp [toLE, bytesToLeReversesBE, sampleBytes]

theorem byteSample_serialized (n : Nat) (hn : 1 ≤ n) (be : Bool) (x : Int) (h : inRange n x) :
    byteSample be (sampleBytes n be x) = x := by
  rw [byteSample, toLE_sampleBytes, sampleOfLE_sampleBytes n hn x h]

/-- **one sample through the byte front-end, either byte order**, for the sample widths the crate has -/
theorem byteSample_sampleBytes (n : Nat) (hn : 1 ≤ n ∧ n ≤ 4) (be : Bool) (x : Int) (h : inRange n x) :
    byteSample be (sampleBytes n be x) = x := byteSample_serialized n hn.1 be x h

theorem chunkN_flatMap {β : Type} (n : Nat) (hn : 0 < n) (f : β → List Nat) (hf : ∀ x, (f x).length = n) (xs : List β) (fuel : Nat)
    (hfuel : xs.length ≤ fuel) : chunkN n fuel (xs.flatMap f) = xs.map f := by
  induction xs generalizing fuel with
  | nil => cases fuel <;> rfl
  | cons x r ih =>
    obtain _ | fuel := fuel
    · exact absurd hfuel (Nat.not_succ_le_zero _)
    · rw [chunkN, isEmpty_flatMap_const hn hf, if_neg (by simp; omega), List.flatMap_cons, List.take_left' (hf x),
        List.drop_left' (hf x), ih fuel (Nat.le_of_succ_le_succ hfuel), List.map_cons]

/-- with the fuel the front-end gives it (the number of bytes), `chunks_exact` undoes the serialisation -/
theorem chunkN_serialized {β : Type} (n : Nat) (hn : 0 < n) (f : β → List Nat) (hf : ∀ x, (f x).length = n) (xs : List β) :
    chunkN n (xs.flatMap f).length (xs.flatMap f) = xs.map f :=
  chunkN_flatMap n hn f hf xs _ (by rw [length_flatMap_const n f _ fun x _ => hf x]; exact Nat.le_mul_of_pos_left _ hn)

/-- a block of serialised samples comes out of `fill_from_buf` as those samples -/
theorem byteFrontSamples_serialized (n : Nat) (hn : 1 ≤ n) (be : Bool) (xs : List Int) (h : ∀ x ∈ xs, inRange n x) :
    byteFrontSamples n be (xs.flatMap (sampleBytes n be)) = xs := by
  rw [byteFrontSamples, chunkN_serialized n hn _ (sampleBytes_length n be), List.map_map]
  exact map_fixed fun x hx => by rw [Function.comp_apply, byteSample_serialized n hn be x (h x hx)]

/-- … and the MD5 is fed the little-endian serialisation, which is what the sample front-ends feed it (`update_md5`) -/
theorem byteFrontMd5_serialized (n : Nat) (hn : 1 ≤ n) (be : Bool) (xs : List Int) :
    byteFrontMd5Input n be (xs.flatMap (sampleBytes n be)) = xs.flatMap (sampleBytes n false) := by
  rw [byteFrontMd5Input, chunkN_serialized n hn _ (sampleBytes_length n be), List.flatMap_map]
  simp only [toLE_sampleBytes]

def serialized {β : Type} (f : β → List Nat) (w : Wr β) : Wr Nat := { buf := w.buf.flatMap f, blocks := w.blocks.map (·.flatMap f) }

section
variable {β : Type} (n : Nat) (hn : 0 < n) (f : β → List Nat) (hf : ∀ x, (f x).length = n)
include hn hf

theorem serialized_inv {F : Nat} {inp : List β} {w : Wr β} (h : Inv F inp w) : Inv (n * F) (inp.flatMap f) (serialized f w) := by
  obtain ⟨e1, e2, e3⟩ := h
  refine ⟨?_, fun b hb => ?_, ?_⟩
  · rw [e1, List.flatMap_append, flatMap_flatten]; rfl
  · obtain ⟨b0, hb0, rfl⟩ := List.mem_map.mp hb
    rw [length_flatMap_const n f _ fun x _ => hf x, e2 b0 hb0]
  · exact (length_flatMap_const n f _ fun x _ => hf x) ▸ Nat.mul_lt_mul_of_pos_left e3 hn

theorem write_serialized (F : Nat) (hF : 0 < F) (xs : List β) :
    (Wr.init : Wr Nat).write (n * F) (xs.flatMap f) = serialized f ((Wr.init : Wr β).write F xs) :=
  (write_init_inv (n * F) (Nat.mul_pos hn hF) _).unique (serialized_inv n hn f hf (write_init_inv F hF xs))

theorem finalize_serialized (q : Nat) (w : Wr β) : (serialized f w).finalize (n * q) = (w.finalize q).map (·.flatMap f) := by
  unfold Wr.finalize serialized
  dsimp only
  rw [length_flatMap_const n f _ fun x _ => hf x, Nat.mul_mod_mul_left, ← Nat.mul_sub, take_flatMap_const n f hf,
    isEmpty_flatMap_const hn hf]
  split
  · rfl
  · rw [List.map_append, List.map_cons, List.map_nil]

/-- the byte writer, fed a serialisation in any pieces, ends with the serialised blocks of the element writer -/
theorem finalize_foldl_serialized (F q : Nat) (hF : 0 < F) (xs : List β) (ws : List (List Nat)) (hws : ws.flatten = xs.flatMap f) :
    (ws.foldl (Wr.write (n * F)) Wr.init).finalize (n * q) = (((Wr.init : Wr β).write F xs).finalize q).map (·.flatMap f) := by
  rw [foldl_write_eq (n * F) (Nat.mul_pos hn hF), hws, write_serialized n hn f hf F hF, finalize_serialized n hn f hf]

end

/-- **Front-end and byte-order independence.**  `xs`: interleaved samples that fit `n` bytes (n = `ceil(bps/8)` ∈ 1…4); `F` = samples
    per block, `q` = samples per PCM frame.  Serialise them in either byte order, cut the bytes into write calls anywhere — also inside a
    sample — and give them to the byte front-end (blocks of `n*F` bytes, PCM frames of `n*q`): the blocks of samples that reach the encoder
    are exactly those the sample front-end makes of `xs` in one call. -/
theorem byte_frontend_blocks (n F q : Nat) (hn : 1 ≤ n ∧ n ≤ 4) (hF : 0 < F) (be : Bool) (xs : List Int)
    (hx : ∀ x ∈ xs, inRange n x) (ws : List (List Nat)) (hws : ws.flatten = xs.flatMap (sampleBytes n be)) :
    ((ws.foldl (Wr.write (n * F)) Wr.init).finalize (n * q)).map (byteFrontSamples n be) = ((Wr.init : Wr Int).write F xs).finalize q := by
  rw [finalize_foldl_serialized n hn.1 _ (sampleBytes_length n be) F q hF xs ws hws, List.map_map]
  exact map_fixed fun b hb => byteFrontSamples_serialized n hn.1 be b fun x hxb => hx x (mem_of_mem_finalize (write_init_inv F hF xs) hb hxb)

/-- the same for the bytes that reach the MD5: the little-endian serialisation of exactly the encoded samples, whatever the caller's byte order -/
theorem byte_frontend_md5 (n F q : Nat) (hn : 1 ≤ n ∧ n ≤ 4) (hF : 0 < F) (be : Bool) (xs : List Int)
    (ws : List (List Nat)) (hws : ws.flatten = xs.flatMap (sampleBytes n be)) :
    ((ws.foldl (Wr.write (n * F)) Wr.init).finalize (n * q)).flatMap (byteFrontMd5Input n be)
      = (((Wr.init : Wr Int).write F xs).finalize q).flatten.flatMap (sampleBytes n false) := by
  rw [finalize_foldl_serialized n hn.1 _ (sampleBytes_length n be) F q hF xs ws hws, List.flatMap_map, flatMap_flatten,
    List.flatMap_def]
  simp only [byteFrontMd5_serialized n hn.1 be]

/-- hence the two byte orders give the encoder the same blocks -/
theorem byte_order_indep (n F q : Nat) (hn : 1 ≤ n ∧ n ≤ 4) (hF : 0 < F) (xs : List Int) (hx : ∀ x ∈ xs, inRange n x)
    (ws1 ws2 : List (List Nat)) (h1 : ws1.flatten = xs.flatMap (sampleBytes n true)) (h2 : ws2.flatten = xs.flatMap (sampleBytes n false)) :
    ((ws1.foldl (Wr.write (n * F)) Wr.init).finalize (n * q)).map (byteFrontSamples n true)
      = ((ws2.foldl (Wr.write (n * F)) Wr.init).finalize (n * q)).map (byteFrontSamples n false) := by
  rw [byte_frontend_blocks n F q hn hF true xs hx ws1 h1, byte_frontend_blocks n F q hn hF false xs hx ws2 h2]

/-- **Reader into writer.**  What the byte reader delivers for decoded frames (C07: `byte_eq_serialised_samples`), handed to the byte
    writer in the same byte order in any pieces, reaches the encoder as the blocks of exactly the decoded samples: transcoding through
    the byte interfaces loses nothing, for depths up to 32 bits whose samples fit their `ceil(bps/8)` bytes. -/
theorem reader_bytes_feed_writer (bps F q : Nat) (hb : 1 ≤ bps ∧ bps ≤ 32) (hF : 0 < F) (be : Bool) (fs : List FrameInfo)
    (hx : ∀ x ∈ fs.flatMap frameSamples, inRange (bytesPerSample bps) x)
    (ws : List (List Nat)) (hws : ws.flatten = fs.flatMap (frameBytes bps be)) :
    ((ws.foldl (Wr.write (bytesPerSample bps * F)) Wr.init).finalize (bytesPerSample bps * q)).map (byteFrontSamples (bytesPerSample bps) be)
      = ((Wr.init : Wr Int).write F (fs.flatMap frameSamples)).finalize q := by
  have hn : 1 ≤ bytesPerSample bps ∧ bytesPerSample bps ≤ 4 := by unfold bytesPerSample; omega
  exact byte_frontend_blocks _ F q hn hF be _ hx ws (by rw [hws, Flac.C07.byte_eq_serialised_samples])

/-- non-vacuity: 16-bit stereo, big-endian bytes cut inside a sample; blocks of 2 PCM frames -/
example : (([[255], [254, 0, 3, 128, 0, 127], [255, 0, 1, 9]].foldl (Wr.write (2 * 4)) Wr.init).finalize (2 * 2)).map (byteFrontSamples 2 true)
    = [[-2, 3, -32768, 32767]] := by decide
example : byteFrontSamples 2 true [255, 254, 0, 3, 128, 0, 127, 255] = [-2, 3, -32768, 32767] := by decide
example : byteFrontSamples 3 false (sampleBytes 3 false (-8388608) ++ sampleBytes 3 false 8388607 ++ sampleBytes 3 false (-1)) = [-8388608, 8388607, -1] := by decide

end Flac.C08
