/-
  Props/C05c.lean — C05, the truncation clause, for the readers' frame loop with a DECLARED total: a stream cut at any
  byte inside a frame delivers exactly the samples of the frames that are complete before the cut - a whole-frame prefix of
  the original audio - and then ends in an error (end of data), never in a clean end of stream and never with other samples.
  (The undeclared-total case is C14.interrupted_decodes_complete_frames.)
-/
import FlacModel.Props.C05b
import FlacModel.Props.C14
import FlacModel.Proofs.DecodeFacts

namespace Flac.C05
open Flac Gen

/-- block sizes that the decoder's accounting accepts while `remaining` samples are still expected: none is empty or longer
    than what remains, and a block of 14 samples or fewer is only accepted as the last one -/
def blocksFit : List Nat → Nat → Prop
  | [], _ => True
  | b :: rest, remaining => 0 < b ∧ b ≤ remaining ∧ (b = remaining ∨ 14 < b) ∧ blocksFit rest (remaining - b)

/-- a cut frame that the accounting would admit, where the next frame is expected: the loop ends with end of data -/
theorem decodeLoop_declared_cut (p : Profile) (si : SInfo) (total : Nat) (part x : List Nat) (dcut : Decoded) (hx : x ≠ [])
    (hcut : decodeFrame p (some si) (part ++ x) = .ok dcut) (hcutu : dcut.used = (part ++ x).length)
    (fuel cur : Nat) (acc : List (List (List Int)))
    (b0 : 0 < dcut.hdr.blockSize) (b1 : dcut.hdr.blockSize ≤ total - cur)
    (b2 : dcut.hdr.blockSize = total - cur ∨ 14 < dcut.hdr.blockSize) :
    decodeLoop p si total (fuel + 1) part cur acc = (acc.reverse, some .eof) := by
  rcases decodeFrame_cut p (some si) part x dcut hcut hcutu hx with he | ⟨⟨hv, hh⟩, hd⟩
  · exact C14.decodeLoop_declared_header_error p he total fuel cur acc (by omega)
  · -- the header fits in the part: it is the header of the whole frame, so the accounting lets it through
    obtain ⟨n, hn⟩ := decodeFrame_header hcut
    obtain rfl : (dcut.hdr, n, true) = hv := Except.ok.inj (hn.symm.trans (parseHeaderBytes_ext (some si) part hv hh x))
    rw [C14.decodeLoop_declared_header p hh (decodeFrame_check hcut) total fuel cur acc (by omega),
      if_neg (by omega), if_pos b2, hd]

/-- **Truncation under a declared total.**  The stream is the complete frames `fs` and then `part`, a frame cut short by the
    non-empty `x`, all of them blocks the accounting admits while `total - cur` samples are expected (`blocksFit`): the
    readers' frame loop delivers the channels of exactly the frames `fs`, in order, and ends with end of data. -/
theorem declared_total_truncated (p : Profile) (si : SInfo) (total : Nat)
    (fs : List (List Nat × Decoded))
    (hdec : ∀ fd ∈ fs, decodeFrame p (some si) fd.1 = .ok fd.2 ∧ fd.2.used = fd.1.length)
    (part x : List Nat) (dcut : Decoded) (hp : part ≠ []) (hx : x ≠ [])
    (hcut : decodeFrame p (some si) (part ++ x) = .ok dcut) (hcutu : dcut.used = (part ++ x).length)
    (fuel cur : Nat) (acc : List (List (List Int))) (hfuel : fs.length + 1 < fuel + 1)
    (hcur : cur ≤ total) (htot : total ≠ 0)
    (hblocks : blocksFit (fs.map (·.2.hdr.blockSize) ++ [dcut.hdr.blockSize]) (total - cur)) :
    decodeLoop p si total fuel ((fs.map (·.1)).flatten ++ part) cur acc = (acc.reverse ++ fs.map (·.2.channels), some .eof) := by
  obtain ⟨k, rfl⟩ : ∃ k, fuel = fs.length + (k + 1) := ⟨fuel - fs.length - 1, by omega⟩
  obtain ⟨hc, hm, e⟩ := C14.decodeLoop_declared_frames blocksFit (fun _ _ _ h => h) total fs
    (fun fd hfd => C14.loc_of_decodes (hdec fd hfd).1 (hdec fd hfd).2) [dcut.hdr.blockSize] part (k + 1) cur acc
    hcur hblocks
  -- behind the complete frames the cut one is expected, and admitted
  obtain ⟨b0, b1, b2, _⟩ := hm
  rw [e, decodeLoop_declared_cut p si total part x dcut hx hcut hcutu k _ _ b0 b1 b2, List.reverse_append, List.reverse_reverse]

end Flac.C05
