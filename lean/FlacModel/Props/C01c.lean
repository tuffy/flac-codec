/-
  Props/C01c.lean — C01 for whole streams: the frame loop of the file readers (`Decoder::read_frame` driven to the
  end) returns exactly the samples of every frame of the stream, in order, and then a clean end of stream -
  for a declared total (where the loop stops at the total and ignores what follows) as for an undeclared one.
-/
import FlacModel.Props.C01b
import FlacModel.Props.C14

namespace Flac.C01
open Flac Gen

/-- block sizes a stream of the given remaining length may consist of: every block but the last is longer than 14
    samples (the decoder's short-block rule), none is empty, and they add up to the remainder -/
def blocksOk : List Nat → Nat → Prop
  | [], remaining => remaining = 0
  | b :: rest, remaining => 0 < b ∧ b ≤ remaining ∧ (b = remaining ∨ 14 < b) ∧ blocksOk rest (remaining - b)

/-- **Declared total.**  Any frames that each decode on their own (using all their bytes), whose block sizes add up to the
    declared total, are delivered by the frame loop exactly, in order, followed by a clean end of stream - whatever bytes
    follow the last frame. -/
theorem declared_total_decodes_all (p : Profile) (si : SInfo) (total : Nat)
    (fs : List (List Nat × Decoded))
    (hdec : ∀ fd ∈ fs, decodeFrame p (some si) fd.1 = .ok fd.2 ∧ fd.2.used = fd.1.length)
    (rest : List Nat) (fuel cur : Nat) (acc : List (List (List Int))) (hfuel : fs.length < fuel)
    (hcur : cur ≤ total) (htot : total ≠ 0)
    (hblocks : blocksOk (fs.map (·.2.hdr.blockSize)) (total - cur)) :
    decodeLoop p si total fuel ((fs.map (·.1)).flatten ++ rest) cur acc = (acc.reverse ++ fs.map (·.2.channels), none) := by
  obtain ⟨k, rfl⟩ : ∃ k, fuel = fs.length + (k + 1) := ⟨fuel - fs.length - 1, by omega⟩
  obtain ⟨hc, hz, e⟩ := C14.decodeLoop_declared_frames blocksOk (fun _ _ _ h => h) total fs
    (fun fd hfd => C14.loc_of_decodes (hdec fd hfd).1 (hdec fd hfd).2) [] rest (k + 1) cur acc hcur
    (by rwa [List.append_nil])
  -- nothing is left to come: the total is reached
  have ht : cur + (fs.map (·.2.hdr.blockSize)).sum = total := by unfold blocksOk at hz; omega
  rw [e, ht, C14.decodeLoop_at_total p si total htot, List.reverse_append, List.reverse_reverse]

/-- the frame loop over serialized well-formed frames, for any sufficient fuel -/
theorem frames_loop (p : Profile) (si : SInfo) (total : Nat) (htot : total ≠ 0)
    (items : List (Frame × List (List Int) × List (List Int))) (rest : List Nat)
    (h : ∀ it ∈ items, FrameWf (some si) it.1
      ∧ subsDecode p it.1.hdr.assign it.1.hdr.blockSize it.1.hdr.bps it.1.subs it.2.1 0
      ∧ recorrelate p it.1.hdr.assign it.1.hdr.bps it.2.1 = .ok it.2.2)
    (hblocks : blocksOk (items.map (·.1.hdr.blockSize)) total) (fuel : Nat) (hfuel : items.length < fuel) :
    decodeLoop p si total fuel ((items.map (·.1.serialize)).flatten ++ rest) 0 [] = (items.map (·.2.2), none) := by
  have key := declared_total_decodes_all p si total
    (items.map fun it => (it.1.serialize, ({ hdr := it.1.hdr, channels := it.2.2, used := it.1.serialize.length } : Decoded)))
    (by
      intro fd hfd
      obtain ⟨it, hit, rfl⟩ := List.mem_map.mp hfd
      obtain ⟨w, hx, hr⟩ := h it hit
      -- not `rfl`: that unfolds `List.length (Frame.serialize _)` all the way down
      exact ⟨frame_roundtrip p (some si) it.1 it.2.1 it.2.2 w hx hr, by dsimp only⟩)
    rest fuel 0 [] (by simpa using hfuel) (Nat.zero_le _) htot
    (by simpa [List.map_map, Function.comp_def] using hblocks)
  simpa [List.map_map, Function.comp_def] using key

/-- **Whole stream, frame by frame** (declared total): a stream made of well-formed frames - each with whatever
    subframe kinds, predictors and partitioning the encoder chose - whose block sizes add up to the declared total is
    decoded by the frame loop to exactly the samples those frames carry. -/
theorem stream_of_frames_lossless (p : Profile) (si : SInfo) (total : Nat) (htot : total ≠ 0)
    (items : List (Frame × List (List Int) × List (List Int))) (rest : List Nat)
    (h : ∀ it ∈ items, FrameWf (some si) it.1
      ∧ subsDecode p it.1.hdr.assign it.1.hdr.blockSize it.1.hdr.bps it.1.subs it.2.1 0
      ∧ recorrelate p it.1.hdr.assign it.1.hdr.bps it.2.1 = .ok it.2.2)
    (hblocks : blocksOk (items.map (·.1.hdr.blockSize)) total) :
    decodeLoop p si total (items.length + 1) ((items.map (·.1.serialize)).flatten ++ rest) 0 []
      = (items.map (·.2.2), none) :=
  frames_loop p si total htot items rest h hblocks (items.length + 1) (Nat.lt_succ_self _)

end Flac.C01
