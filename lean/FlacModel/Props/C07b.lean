/-
  Props/C07b.lean — the reader state machines of C06/C07 (`Model/Readers.lean`: `Dec.readFrame` over an abstract list of
  frames) are an abstraction of the byte-level frame loop (`Model/FileDecode.lean`: `decodeLoop` over the file's bytes).
  `loop_refines` covers a declared, non-zero total and bytes that end with the last frame described (a clean end of
  file): driven to the end, both deliver the same frames and stop for the same reason - end of stream at the declared
  total, `TooManySamples`, `ShortBlock`, or end of data.  The two overshoot tests are compared at the regenerated value of
  `Gen.decOvershootIsError` (`true`), not for either value.
-/
import FlacModel.Props.C07
import FlacModel.Props.C14
import FlacModel.Proofs.DecodeFacts

namespace Flac.C07
open Flac Gen

/-- the abstract frame list describes the bytes: every abstract frame is the decoding of the next standalone frame -/
def Describes (p : Profile) (si : SInfo) : List FrameInfo → List Nat → Prop
  | [], bytes => bytes = []
  | fi :: rest, bytes => ∃ f d tail, bytes = f ++ tail ∧ decodeFrame p (some si) f = .ok d ∧ d.used = f.length
      ∧ d.channels = fi.chans ∧ d.hdr.blockSize = fi.len ∧ Describes p si rest tail

/-- `Dec.readFrame` driven until it stops -/
def readAll (s : Stream) : Nat → Dec → List (List (List Int)) × Option Fail
  | 0, _ => ([], none)
  | fuel + 1, d =>
    match d.readFrame s with
    | .ok (some fi, d') => (fi.chans :: (readAll s fuel d').1, (readAll s fuel d').2)
    | .ok (none, _) => ([], none)
    | .error e => ([], some e)

/-- **the byte-level loop refines to the abstract reader** (declared total, position not past it) -/
theorem loop_refines (p : Profile) (si : SInfo) (s : Stream) (t : Nat) (ht : s.total = some t) (ht0 : t ≠ 0)
    (fuel : Nat) (d : Dec) (bytes : List Nat) (hdesc : Describes p si d.rest bytes) (hcur : d.cur ≤ t)
    (acc : List (List (List Int))) :
    decodeLoop p si t fuel bytes d.cur acc = (acc.reverse ++ (readAll s fuel d).1, (readAll s fuel d).2) := by
  induction fuel generalizing d bytes acc with
  | zero => exact Prod.ext (List.append_nil _).symm rfl
  | succ fuel ih =>
    obtain ⟨rest, cur⟩ := d
    rw [readAll, Dec.readFrame, ht]
    dsimp only
    by_cases hlt : t ≤ cur
    · obtain rfl : t = cur := Nat.le_antisymm hlt hcur
      rw [Flac.C14.decodeLoop_at_total p si t ht0, if_pos hlt, List.append_nil]
    · rw [if_neg hlt]
      cases rest with
      | nil =>
        obtain rfl : bytes = [] := hdesc
        rw [Flac.C14.decodeLoop_declared_nil p si t fuel cur acc (Nat.lt_of_not_le hlt), List.append_nil]
      | cons fi rest =>
        obtain ⟨f, dd, tail, rfl, hdec, hu, hch, hbs, hrest⟩ := hdesc
        have hov : Gen.decOvershootIsError = true := rfl
        rw [Flac.C14.decodeLoop_declared_step (Flac.C14.loc_of_decodes hdec hu) t tail fuel cur acc (Nat.lt_of_not_le hlt), hbs]
        -- both sides are now the same three-way decision on `fi.len`
        simp only [hov, Bool.true_and, decide_eq_true_eq, Bool.or_eq_true, beq_iff_eq]
        by_cases h1 : fi.len > t - cur
        · rw [if_pos h1, if_pos h1, List.append_nil]
        · rw [if_neg h1, if_neg h1]
          by_cases h2 : fi.len = t - cur ∨ fi.len > 14
          · rw [if_pos h2, if_pos h2, ih { rest := rest, cur := cur + fi.len } tail hrest (by dsimp only; omega) (dd.channels :: acc), hch,
              List.reverse_cons, List.append_assoc, List.singleton_append]
          · rw [if_neg h2, if_neg h2, List.append_nil]

end Flac.C07
