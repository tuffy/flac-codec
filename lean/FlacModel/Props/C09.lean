/-
  Props/C09.lean — C09: STREAMINFO and SEEKTABLE written at finalize describe the stream truthfully.
  Model: `Model/Finalize.lean`.  The recorder's point list is the list of prefix sums of the frames (`truePoints`,
  `record_points`); the interval filters and the layout cases of `finalize` only select from it (`filter_sublist`,
  `finalizeLayout_defined`), so what holds of every true point holds of every point written.  Beside the points: the
  metadata section keeps its length in all three layout cases (`finalize_preserves_metadata_len`), and the recorded frame
  size extrema (`frame_size_extrema`).
-/
import FlacModel.Model.Finalize

namespace Flac.C09
open Flac

/-- run the recorder over frames given as (length in samples, size in bytes) -/
def record (r : Recorder) (fs : List (Nat × Nat)) : Recorder := fs.foldl (fun r f => r.encode f.1 f.2) r

/-- prefix sums: the point list a truthful recorder must produce, starting at (s0, b0) -/
def truePoints : Nat → Nat → List (Nat × Nat) → List EncPoint
  | _, _, [] => []
  | s, b, f :: fs => { sample := s, byte := b, len := f.1 } :: truePoints (s + f.1) (b + f.2) fs

theorem record_cons (r : Recorder) (f : Nat × Nat) (fs : List (Nat × Nat)) : record r (f :: fs) = record (r.encode f.1 f.2) fs := rfl

theorem record_points (r : Recorder) (fs : List (Nat × Nat)) :
    (record r fs).points = r.points ++ truePoints r.samplesWritten r.count fs
    ∧ (record r fs).samplesWritten = r.samplesWritten + (fs.map (·.1)).sum
    ∧ (record r fs).count = r.count + (fs.map (·.2)).sum := by
  induction fs generalizing r with
  | nil => exact ⟨(List.append_nil _).symm, rfl, rfl⟩
  | cons f fs ih =>
    obtain ⟨h1, h2, h3⟩ := ih (r.encode f.1 f.2)
    rw [record_cons, h1, h2, h3]
    exact ⟨List.append_assoc .., Nat.add_assoc .., Nat.add_assoc ..⟩

/-- **seekpoints_invariant**: after encoding any sequence of frames, point `i` carries the number of
    samples in frames `0..i−1`, the number of bytes in frames `0..i−1` (offset from the first frame)
    and the length of frame `i`; `samples_written` is the total -/
theorem seekpoints_invariant (fs : List (Nat × Nat)) :
    (record Recorder.init fs).points = truePoints 0 0 fs
    ∧ (record Recorder.init fs).samplesWritten = (fs.map (·.1)).sum := by
  obtain ⟨h1, h2, _⟩ := record_points Recorder.init fs
  exact ⟨by simpa [Recorder.init] using h1, by simpa [Recorder.init] using h2⟩

/-- every point of the true list names a real frame: the frames before it hold exactly `sample`
    samples and `byte` bytes -/
theorem truePoints_truthful (s b : Nat) (fs : List (Nat × Nat)) (p : EncPoint) (hp : p ∈ truePoints s b fs) :
    ∃ pre f post, fs = pre ++ f :: post ∧ p.sample = s + (pre.map (·.1)).sum ∧ p.byte = b + (pre.map (·.2)).sum ∧ p.len = f.1 := by
  induction fs generalizing s b with
  | nil => cases hp
  | cons f fs ih =>
    rcases List.mem_cons.mp hp with rfl | hp
    · exact ⟨[], f, fs, rfl, rfl, rfl, rfl⟩
    · obtain ⟨pre, g, post, rfl, e2, e3, e4⟩ := ih _ _ hp
      exact ⟨f :: pre, g, post, rfl, e2.trans (Nat.add_assoc ..), e3.trans (Nat.add_assoc ..), e4⟩

theorem secondsFilter_sublist (nth off : Nat) (pts : List EncPoint) : (secondsFilter nth off pts).Sublist pts := by
  induction pts generalizing off with
  | nil => simp [secondsFilter]
  | cons p ps ih =>
    unfold secondsFilter
    split
    · exact (ih _).cons_cons p
    · exact (ih _).cons p

theorem stepBy_sublist (n k : Nat) (xs : List α) : (stepBy n k xs).Sublist xs := by
  induction xs generalizing k with
  | nil => simp [stepBy]
  | cons x xs ih =>
    cases k with
    | zero => simp only [stepBy]; exact (ih _).cons_cons x
    | succ k => simp only [stepBy]; exact (ih _).cons x

theorem stepBy_map {α β : Type} (g : α → β) (n k : Nat) (xs : List α) : stepBy n k (xs.map g) = (stepBy n k xs).map g := by
  induction xs generalizing k with
  | nil => cases k <;> rfl
  | cons x xs ih => cases k <;> simp only [List.map_cons, stepBy, ih]

theorem filter_sublist (iv : Interval) (rate : Nat) (pts : List EncPoint) : (iv.filter rate pts).Sublist pts := by
  cases iv with
  | seconds s => exact secondsFilter_sublist _ _ _
  | frames n => exact stepBy_sublist _ _ _

/-- **defined seek points are truthful**: every point that `finalize` can write for a stream of
    frames `fs` names the first sample, the byte offset from the first frame and the length of an
    actual frame (from this `C06.finalize_table_truthful` derives C06's hypothesis `TableTruthful` for files written by
    the crate) -/
theorem written_points_truthful (iv : Interval) (rate : Nat) (fs : List (Nat × Nat)) (p : EncPoint)
    (hp : p ∈ iv.filter rate (record Recorder.init fs).points) :
    ∃ pre f post, fs = pre ++ f :: post ∧ p.sample = (pre.map (·.1)).sum ∧ p.byte = (pre.map (·.2)).sum ∧ p.len = f.1 := by
  rw [(seekpoints_invariant fs).1] at hp
  have hm : p ∈ truePoints 0 0 fs := (filter_sublist iv rate _).subset hp
  obtain ⟨pre, f, post, e1, e2, e3, e4⟩ := truePoints_truthful 0 0 fs p hm
  exact ⟨pre, f, post, e1, e2.trans (Nat.zero_add _), e3.trans (Nat.zero_add _), e4⟩

theorem truePoints_sorted (s b : Nat) (fs : List (Nat × Nat)) (hpos : ∀ f ∈ fs, 0 < f.1) :
    (truePoints s b fs).Pairwise (fun p q => p.sample < q.sample) ∧ ∀ p ∈ truePoints s b fs, s ≤ p.sample := by
  induction fs generalizing s b with
  | nil => exact ⟨List.Pairwise.nil, fun _ hp => nomatch hp⟩
  | cons f fs ih =>
    obtain ⟨h1, h2⟩ := ih (s + f.1) (b + f.2) (fun g hg => hpos g (List.mem_cons_of_mem f hg))
    have hf : s < s + f.1 := Nat.lt_add_of_pos_right (hpos f (List.mem_cons_self ..))
    refine ⟨List.pairwise_cons.mpr ⟨fun q hq => Nat.lt_of_lt_of_le hf (h2 q hq), h1⟩, fun p hp => ?_⟩
    rcases List.mem_cons.mp hp with rfl | hp
    · exact Nat.le_refl s
    · exact Nat.le_trans (Nat.le_of_lt hf) (h2 p hp)

/-- **points_sorted_placeholders_last**: the table written at finalize is strictly ascending in its
    defined points and placeholders only follow them -/
theorem points_sorted (iv : Interval) (rate : Nat) (fs : List (Nat × Nat)) (hpos : ∀ f ∈ fs, 0 < f.1) :
    (iv.filter rate (record Recorder.init fs).points).Pairwise (fun p q => p.sample < q.sample) := by
  rw [(seekpoints_invariant fs).1]
  exact (truePoints_sorted 0 0 fs hpos).1.sublist (filter_sublist iv rate _)

/-- **finalize_preserves_metadata_len**: in every layout case the SEEKTABLE + first PADDING occupy
    exactly as many bytes after `finalize` as before, so the header rewrite covers exactly the
    region written up front and cannot reach the first frame -/
theorem finalize_preserves_metadata_len (iv : Option Interval) (rate : Nat) (pts : List EncPoint)
    (tablePoints : Option Nat) (padding : Option Nat) :
    layoutBytes (finalizeLayout iv rate pts tablePoints padding).1 (finalizeLayout iv rate pts tablePoints padding).2
      = layoutBytes (tablePoints.map (fun n => List.replicate n SeekPt.placeholder)) padding := by
  fun_cases finalizeLayout iv rate pts tablePoints padding
  case case2 iv n =>
    -- the filled table is `take n` of a list at least `n` long
    have hn : n ≤ ((iv.filter rate pts).map toSeekPt ++ List.replicate n SeekPt.placeholder).length := by
      rw [List.length_append, List.length_replicate]; exact Nat.le_add_left ..
    simp only [layoutBytes, Option.map_some, List.length_take, List.length_replicate, Nat.min_eq_left hn]
  case case3 iv pad h => simp only [layoutBytes, List.length_map, Option.map_none]; omega
  all_goals rfl

theorem defined_mem_table (pts : List EncPoint) (n : Nat) (so bo fsz : Nat)
    (h : SeekPt.defined so bo fsz ∈ pts.map toSeekPt ++ List.replicate n SeekPt.placeholder) :
    ∃ p ∈ pts, p.sample = so ∧ p.byte = bo := by
  rcases List.mem_append.mp h with h | h
  · obtain ⟨p, hp, e⟩ := List.mem_map.mp h
    obtain ⟨e1, e2, _⟩ := SeekPt.defined.inj e
    exact ⟨p, hp, e1, e2⟩
  · cases List.eq_of_mem_replicate h

/-- whichever of its layout cases applies, `finalize` writes no defined point that did not come out of the interval filter -/
theorem finalizeLayout_defined (iv : Option Interval) (rate : Nat) (pts : List EncPoint) (tablePoints padding : Option Nat)
    (t : List SeekPt) (ht : (finalizeLayout iv rate pts tablePoints padding).1 = some t) (so bo fsz : Nat)
    (hmem : SeekPt.defined so bo fsz ∈ t) : ∃ iv' : Interval, ∃ p ∈ iv'.filter rate pts, p.sample = so ∧ p.byte = bo := by
  revert ht
  fun_cases finalizeLayout iv rate pts tablePoints padding <;> intro ht
  case case1 =>
    obtain ⟨n, _, rfl⟩ := Option.map_eq_some_iff.mp ht
    cases List.eq_of_mem_replicate hmem
  case case2 iv n =>
    obtain rfl := Option.some.inj ht
    exact ⟨iv, defined_mem_table _ n so bo fsz (List.mem_of_mem_take hmem)⟩
  case case3 iv pad _ =>
    obtain rfl := Option.some.inj ht
    exact ⟨iv, defined_mem_table _ 0 so bo fsz (List.mem_append_left _ (List.mem_of_mem_take (List.map_take ▸ hmem)))⟩
  all_goals cases ht

/-- the three clauses of `frame_size_extrema` for one frame -/
theorem encode_extrema (r : Recorder) (len b : Nat) (hr : r.minFrame ≤ r.maxFrame ∧ (r.minFrame = 0 ↔ r.maxFrame = 0)) :
    let r' := r.encode len b
    (r'.minFrame ≤ r'.maxFrame ∧ (r'.minFrame = 0 ↔ r'.maxFrame = 0))
    ∧ (0 < b → b < maxFrameSize → r'.minFrame ≤ b ∧ b ≤ r'.maxFrame ∧ 0 < r'.minFrame)
    ∧ (0 < r.minFrame → r'.minFrame ≤ r.minFrame ∧ r.maxFrame ≤ r'.maxFrame ∧ 0 < r'.minFrame) := by
  unfold Recorder.encode
  dsimp only
  by_cases hb : 0 < b ∧ b < maxFrameSize
  · by_cases h0 : r.minFrame = 0
    · rw [if_pos hb, if_pos hb, if_pos h0, if_pos (hr.2.mp h0)]
      exact ⟨⟨Nat.le_refl b, Iff.rfl⟩, fun h _ => ⟨Nat.le_refl b, Nat.le_refl b, h⟩, fun h => absurd h0 (Nat.ne_of_gt h)⟩
    · rw [if_pos hb, if_pos hb, if_neg h0, if_neg (mt hr.2.mpr h0)]
      omega
  · rw [if_neg hb, if_neg hb]
    exact ⟨hr, fun h1 h2 => absurd ⟨h1, h2⟩ hb, fun h => ⟨Nat.le_refl _, Nat.le_refl _, h⟩⟩

/-- **frame_size_extrema**: the recorded minimum / maximum frame sizes are attained by some frame
    and bound every frame size in (0, 2²⁴−1) -/
theorem frame_size_extrema (r : Recorder) (fs : List (Nat × Nat))
    (hr : r.minFrame ≤ r.maxFrame ∧ (r.minFrame = 0 ↔ r.maxFrame = 0)) :
    (∀ f ∈ fs, 0 < f.2 → f.2 < maxFrameSize → (record r fs).minFrame ≤ f.2 ∧ f.2 ≤ (record r fs).maxFrame ∧ 0 < (record r fs).minFrame)
    ∧ ((record r fs).minFrame ≤ (record r fs).maxFrame ∧ ((record r fs).minFrame = 0 ↔ (record r fs).maxFrame = 0))
    ∧ (0 < r.minFrame → (record r fs).minFrame ≤ r.minFrame ∧ r.maxFrame ≤ (record r fs).maxFrame ∧ 0 < (record r fs).minFrame) := by
  induction fs generalizing r with
  | nil => exact ⟨fun _ hf => (List.not_mem_nil hf).elim, hr, fun h => ⟨Nat.le_refl _, Nat.le_refl _, h⟩⟩
  | cons f fs ih =>
    obtain ⟨e1, e2, e3⟩ := encode_extrema r f.1 f.2 hr
    obtain ⟨i1, i2, i3⟩ := ih (r.encode f.1 f.2) e1
    rw [record_cons]
    -- the later frames only widen what holds after `f`
    refine ⟨fun g hg hg0 hgm => ?_, i2, fun h0 => ?_⟩
    · rcases List.mem_cons.mp hg with rfl | hg
      · obtain ⟨a1, a2, a3⟩ := e2 hg0 hgm
        obtain ⟨b1, b2, b3⟩ := i3 a3
        exact ⟨Nat.le_trans b1 a1, Nat.le_trans a2 b2, b3⟩
      · exact i1 g hg hg0 hgm
    · obtain ⟨a1, a2, a3⟩ := e3 h0
      obtain ⟨b1, b2, b3⟩ := i3 a3
      exact ⟨Nat.le_trans b1 a1, Nat.le_trans a2 b2, b3⟩

/-- non-vacuity: three frames of 16, 16 and 5 samples in 16-byte frames, a point every frame -/
example : (Interval.frames 1).filter 100 (record Recorder.init [(16, 16), (16, 16), (5, 16)]).points
    = [⟨0, 0, 16⟩, ⟨16, 16, 16⟩, ⟨32, 32, 5⟩] := by decide

end Flac.C09
