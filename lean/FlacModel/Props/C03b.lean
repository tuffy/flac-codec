/-
  Props/C03b.lean — C03 at the level of whole frames: whatever the independent RFC-level decoder
  `Spec.specDecode` accepts, the model of the crate's streaming decoder accepts too, consuming the same bytes
  and returning exactly the samples the specification defines (all subframe depths up to 32 bits; the 33-bit
  side channel of 32-bit stereo is covered at kernel level by `wide_*_refines_spec`).
-/
import FlacModel.Props.C03
import FlacModel.Proofs.DecodeFacts
import FlacModel.Proofs.Codec
import FlacModel.Proofs.CrcEq
import FlacModel.Proofs.ListAux

namespace Flac.C03
open Flac Gen

/-- a subframe the specification's parser reads is read identically by the streaming decoder's parser -/
theorem readSubframe_agree (bs d : Nat) (b : Bits) (s : Subframe) (r : Bits)
    (h : readSubframe Spec.rfcLayout false bs d b = .ok (s, r)) :
    readSubframe decLayout true bs d b = .ok (s, r) ∧ subWf decLayout bs d s := by
  obtain ⟨w, e⟩ := readSubframe_sound rfcLayout_sum.fits h
  have w' : subWf decLayout bs d s := decLayout_eq_rfcLayout ▸ w
  rw [e]
  exact ⟨readSubframe_write decLayout true bs d s r w', w'⟩

theorem readSubframes_agree (a : Assign) (bs bps n i : Nat) (b : Bits) (ss : List Subframe) (r : Bits)
    (h : readSubframes Spec.rfcLayout false a bs bps n i b = .ok (ss, r)) :
    readSubframes decLayout true a bs bps n i b = .ok (ss, r) ∧ subsWf decLayout a bs bps ss i := by
  obtain ⟨⟨rfl, w⟩, rfl⟩ := readSubframes_sound rfcLayout_sum.fits h
  have w' : subsWf decLayout a bs bps ss i := decLayout_eq_rfcLayout ▸ w
  exact ⟨readSubframes_write decLayout true a bs bps ss i r w', w'⟩

theorem fixedCoefs_eq (o : Nat) (ho : o ≤ 4) : Spec.fixedCoefs o = fixedCoeffs.getD o [] := by
  match o, ho with
  | 0, _ | 1, _ | 2, _ | 3, _ | 4, _ => rfl

/-- the tail of `decodeSub` after the body has been expanded -/
theorem finish_wasted (p : Profile) (k : Nat) (hk : k < 32) (ys : List Int)
    (hfit : ∀ x ∈ ys.map (· * 2 ^ k), fitsS 32 x = true) :
    (if k > 0 then mapM' (wastedShl p 32 k) ys else .ok ys) = .ok (ys.map (· * 2 ^ k)) := by
  by_cases h0 : k > 0
  · rw [if_pos h0]
    exact mapM'_wasted p k hk ys fun y hy => hfit _ (List.mem_map_of_mem hy)
  · obtain rfl : k = 0 := by omega
    simp

/-- **one subframe**: the decoder's expansion is the specification's, whenever the specified samples fit 32 bits -/
theorem decodeSub_spec (p : Profile) (bs d : Nat) (hd : d ≤ 32) (s : Subframe) (w : subWf decLayout bs d s)
    (hfit : ∀ x ∈ Spec.subframeSamples bs s, fitsS 32 x = true) :
    decodeSub p 32 bs s = .ok (Spec.subframeSamples bs s) := by
  obtain ⟨wasted, body⟩ := s
  obtain ⟨hw, hb⟩ := w
  have hw32 : wasted < 32 := by dsimp only at hw; omega
  -- before the shift by the wasted bits the samples fit a fortiori, which is what the prediction loop asks for
  have hpre : ∀ ys : List Int, (∀ x ∈ ys.map (· * 2 ^ wasted), fitsS 32 x = true) → ∀ y ∈ ys, fitsS 32 y = true :=
    fun ys h y hy => fits_of_scaled (h _ (List.mem_map_of_mem hy))
  rw [decodeSub_eq]
  cases body with
  | constant v => exact finish_wasted p wasted hw32 _ hfit
  | verbatim xs => exact finish_wasted p wasted hw32 _ hfit
  | fixed o warm res =>
    obtain ⟨ho, _⟩ := hb
    simp only [Spec.subframeSamples, fixedCoefs_eq o ho] at hfit ⊢
    obtain ⟨c1, c2, _⟩ := fixedCoeffs_ok o
    simp only [decodeBody, predict, predict_refines_spec p _ 0 (by decide) c1 c2 res.residuals warm.reverse (hpre _ hfit)]
    exact finish_wasted p wasted hw32 _ hfit
  | lpc o warm prec shift coefs res =>
    obtain ⟨_, ho, _, _, _, _, hp, hs, hcl, hcf, _⟩ := hb
    simp only [Spec.subframeSamples] at hfit ⊢
    have c1 : ∀ c ∈ coefs, fitsS 16 c = true := fun c hc => fits_mono (by omega) (hcf c hc)
    simp only [decodeBody, predict, predict_refines_spec p coefs shift (by omega) c1 (by omega) res.residuals warm.reverse (hpre _ hfit)]
    exact finish_wasted p wasted hw32 _ hfit

/-- **all subframes**: what the specification's parser reads, the streaming decoder reads and expands to the
    specified samples, leaving the same rest -/
theorem decSubframes_spec (p : Profile) (a : Assign) (bs bps : Nat) (hn : ∀ j, subBps a bps j ≤ 32) (n i : Nat) (b : Bits)
    (ss : List Subframe) (r : Bits)
    (h : readSubframes Spec.rfcLayout false a bs bps n i b = .ok (ss, r))
    (hfit : ∀ s ∈ ss, ∀ x ∈ Spec.subframeSamples bs s, fitsS 32 x = true) :
    decSubframes p a bs bps n i b = .ok (ss.map (Spec.subframeSamples bs), r) := by
  obtain ⟨g, w⟩ := readSubframes_agree a bs bps n i b ss r h
  refine decSubframes_ok_iff.mpr ⟨ss, g, ?_⟩
  clear g h
  induction ss generalizing i with
  | nil => exact True.intro
  | cons s ss ih =>
    have hw : subWidth a bps i = 32 := by have := hn i; rw [subWidth, if_neg (by omega)]
    exact ⟨hw ▸ decodeSub_spec p bs _ (hn i) s w.1 (hfit s (by simp)), ih (i + 1) (fun t ht => hfit t (by simp [ht])) w.2⟩

/-- **channel reconstruction follows the specification** for depths up to 31 bits in the decorrelated modes (any depth
    for independent channels), whenever the specified inputs and outputs fit their depths -/
theorem recorrelate_spec (p : Profile) (a : Assign) (bps : Nat) (chs : List (List Int))
    (hdepth : a = .indep a.count ∨ bps ≤ 31)
    (hin : ∀ j (hj : j < chs.length), ∀ x ∈ chs[j], fitsS (subBps a bps j) x = true)
    (hout : ∀ xs ∈ Spec.undoStereo a chs, ∀ x ∈ xs, fitsS bps x = true) :
    recorrelate p a bps chs = .ok (Spec.undoStereo a chs) := by
  -- both sides leave `chs` alone unless there are exactly two channels in a stereo mode; there the narrow kernel runs
  -- (`bps < 32`) and is exact on every pair, because the specified outputs fit `bps ≤ 31` bits (`hin` is not needed)
  rcases hdepth with h | hb
  · rw [h]; rfl
  have h32 : bps < 32 := by omega
  match chs, hout with
  | [x, y], hout =>
    cases a with
    | indep n => rfl
    | leftSide =>
      simp only [recorrelate, Spec.undoStereo, h32, if_true] at hout ⊢
      rw [zipWithM_ok _ _ x y fun ab hab =>
        decLeftSide_ok p _ _ (fits_mono (by omega) (hout _ (by simp) _ (mem_zipWith_of_mem_zip _ hab)))]
    | sideRight =>
      simp only [recorrelate, Spec.undoStereo, h32, if_true] at hout ⊢
      rw [zipWithM_ok _ _ x y fun ab hab =>
        decSideRight_ok p _ _ (fits_mono (by omega) (hout _ (by simp) _ (mem_zipWith_of_mem_zip _ hab)))]
    | midSide =>
      simp only [recorrelate, Spec.undoStereo, h32, if_true] at hout ⊢
      have out31 := fun xs hxs x hx => fits_mono hb (hout xs hxs x hx)
      rw [zipWithM_ok _ (fun m s => ((2 * m + s % 2 + s) / 2, (2 * m + s % 2 - s) / 2)) x y fun ab hab => midside_refines_spec p _ _
        (out31 _ (by simp) _ (mem_zipWith_of_mem_zip (fun m s => (2 * m + s % 2 + s) / 2) hab))
        (out31 _ (by simp) _ (mem_zipWith_of_mem_zip (fun m s => (2 * m + s % 2 - s) / 2) hab))]
      simp only [List.map_zipWith]
  | [], _ | [_], _ | _ :: _ :: _ :: _, _ => cases a <;> rfl

theorem specDecode_ok_iff {si : Option SInfo} {bytes : List Nat} {d : Spec.Decoded} :
    Spec.specDecode si bytes = .ok d ↔
      ∃ pr, parseFrame Spec.rfcLayout false si bytes false = .ok pr ∧ Spec.crc8 (bytes.take pr.hdrUsed) = 0 ∧
        Spec.frameWf pr.frame = true ∧ Spec.crc16 (bytes.take pr.used) = 0 ∧ Spec.frameSamplesFit pr.frame = true ∧
        d = { frame := pr.frame, channels := Spec.frameSamples pr.frame, used := pr.used } := by
  constructor
  · fun_cases Spec.specDecode si bytes <;> intro h <;> cases h
    rename_i pr g0 c1 c2 c3 c4
    exact ⟨pr, g0, by simpa using c1, by simpa using c2, by simpa using c3, by simpa using c4, rfl⟩
  · rintro ⟨pr, g0, k1, k2, k3, k4, rfl⟩
    simp [Spec.specDecode, g0, k1, k2, k3, k4]

theorem frameWf_bps (f : Frame) (h : Spec.frameWf f = true) : f.hdr.bps ≤ 32 := by
  -- `headerWf` is the first conjunct, and `bps ≤ 32` its fifth
  simp only [Spec.frameWf, Spec.headerWf, Bool.and_eq_true, decide_eq_true_eq, and_assoc] at h
  obtain ⟨_, _, _, _, hb, _⟩ := h
  exact hb

theorem frameSamplesFit_sound (f : Frame) (h : Spec.frameSamplesFit f = true) :
    (∀ j (hj : j < f.subs.length), ∀ x ∈ Spec.subframeSamples f.hdr.blockSize f.subs[j],
        fitsS (subBps f.hdr.assign f.hdr.bps j) x = true)
      ∧ ∀ xs ∈ Spec.frameSamples f, ∀ x ∈ xs, fitsS f.hdr.bps x = true := by
  simp only [Spec.frameSamplesFit, Bool.and_eq_true, List.all_eq_true (l := Spec.frameSamples f)] at h
  refine ⟨fun j hj x hx => ?_, fun xs hxs => List.all_eq_true.mp (h.2 xs hxs)⟩
  have := all_zip_range (fun (xs : List Int) i => xs.all (fitsS (subBps f.hdr.assign f.hdr.bps i))) (Spec.frameSubSamples f)
    (by simpa [Spec.frameSubSamples] using h.1) j (by simpa [Spec.frameSubSamples] using hj)
  simp only [Spec.frameSubSamples, List.getElem_map, List.all_eq_true] at this
  exact this x hx

theorem subBps_le (a : Assign) (bps : Nat) (hb : bps ≤ 32) (hdepth : a = .indep a.count ∨ bps ≤ 31) (j : Nat) :
    subBps a bps j ≤ 32 := by
  rcases hdepth with h | h
  · rw [h]; exact hb
  · unfold subBps; split <;> omega

/-- **The decoder follows the specification on every frame the specification accepts.**  For every byte string,
    every STREAMINFO context and both build profiles: if the independent RFC-level decoder accepts a frame at the
    front of `bytes` (depths up to 31 bits in the decorrelated stereo modes, up to 32 bits for independent channels),
    the crate's streaming decoder accepts it too, consumes exactly the same bytes and returns exactly the samples the
    specification defines - including every construct this encoder never emits. -/
theorem spec_accepts_implies_decoder (p : Profile) (si : Option SInfo) (bytes : List Nat) (hb : ∀ x ∈ bytes, x < 256)
    (d : Spec.Decoded) (h : Spec.specDecode si bytes = .ok d)
    (hdepth : d.frame.hdr.assign = .indep d.frame.hdr.assign.count ∨ d.frame.hdr.bps ≤ 31) :
    decodeFrame p si bytes = .ok { hdr := d.frame.hdr, channels := d.channels, used := d.used } := by
  -- the specification's acceptance and its parse, opened once; the decoder's acceptance is assembled from the same
  -- reader results
  obtain ⟨pr, g0, k1, k2, k3, k4, rfl⟩ := specDecode_ok_iff.mp h
  obtain ⟨hd, rest, subs, rest2, c16, rest3, g1, g2, _, g3, g4, rfl⟩ := parseFrame_ok_iff.mp g0
  have hb32 := frameWf_bps _ k2
  obtain ⟨f1, f2⟩ := frameSamplesFit_sound _ k4
  dsimp only at k1 k3 hdepth hb32 f1 f2 ⊢
  have hn := subBps_le hd.assign hd.bps hb32 hdepth
  -- checksums through the all-messages CRC theorem
  have v8 : crc8Valid (crc8 (bytes.take (bytes.length - rest.length / 8))) = true := by
    rw [CrcEq.crc8_eq_spec _ (bytes_lt_take bytes hb _), k1]; decide
  have v16 : crc16Valid (crc16 (bytes.take (bytes.length - rest3.length / 8))) = true := by
    rw [CrcEq.crc16_eq_spec _ (bytes_lt_take bytes hb _), k3]; decide
  refine decodeFrame_ok_iff.mpr ⟨hd, rest, _, rest2, _, c16, rest3, g1, g2, v8, hb32,
    decSubframes_spec p hd.assign hd.blockSize hd.bps hn _ 0 rest subs rest2 g3 ?_,
    recorrelate_spec p hd.assign hd.bps _ hdepth ?_ f2, g4, v16, rfl⟩
  · -- a subframe's samples fit its depth, which is at most 32
    intro s hs x hx
    obtain ⟨j, hj, rfl⟩ := List.getElem_of_mem hs
    exact fits_mono (hn j) (f1 j hj x hx)
  · intro j hj x hx
    rw [List.getElem_map] at hx
    exact f1 j (by simpa using hj) x hx

end Flac.C03
