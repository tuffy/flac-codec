/-
  Props/C05b.lean — C05 for the crate's own checksum code and whole frames:
  (1) whatever the streaming decoder accepts is, byte for byte, the serialization of a well-formed frame (no reserved or
      illegal code, every field in range, both stored checksums equal to the computed ones);
  (2) flipping any single bit of an accepted frame makes the decoder reject it, unless the frame's extent changes.
-/
import FlacModel.Props.C05
import FlacModel.Props.C17b
import FlacModel.Proofs.CrcEq

namespace Flac.C05
open Flac Gen

/-- **Only well-formed frames are accepted.**  If the streaming decoder accepts a frame at the front of `bytes`, the bytes
    it consumed are exactly the serialization of a frame that is well-formed against the STREAMINFO context: legal header
    codes consistent with their fields and with STREAMINFO, legal subframe types, orders, precisions, shifts and partition
    layouts, every value within its field, and both checksums as computed from the content. -/
theorem accepted_frame_is_wellformed (p : Profile) (si : Option SInfo) (bytes : List Nat) (hb : ∀ x ∈ bytes, x < 256) (d : Decoded)
    (h : decodeFrame p si bytes = .ok d) :
    ∃ f : Frame, FrameWf si f ∧ f.hdr = d.hdr ∧ f.serialize = bytes.take d.used := by
  obtain ⟨pr, _, hp, h16, hbps, _, _, e1, e2⟩ := decodeFrame_iff_parse.mp h
  obtain ⟨e, w⟩ := C17.parse_reserializes true si bytes hb pr hp h16 hbps
  exact ⟨pr.frame, w, e1.symm, by rw [e, e2]⟩

theorem accepted_crc16 (p : Profile) (si : Option SInfo) (bytes : List Nat) (d : Decoded)
    (h : decodeFrame p si bytes = .ok d) : crc16 (bytes.take d.used) = 0 := by
  obtain ⟨hd, rest, chs, rest2, out, c16, rest3, _, _, _, _, _, _, _, g16, rfl⟩ := decodeFrame_ok_iff.mp h
  exact crc16Valid_eq_zero _ g16

/-- the crate's CRC-16 over the accepted bytes is 0 (`accepted_crc16`); for a frame accepted with all of its bytes that is
    the specification's bit-serial checksum of the frame (`CrcEq.crc16_eq_spec`) -/
theorem accepted_whole_crc16 (p : Profile) (si : Option SInfo) (f : List Nat) (hf : ∀ x ∈ f, x < 256) (d : Decoded)
    (h : decodeFrame p si f = .ok d) (hu : d.used = f.length) : Spec.crc16 f = 0 := by
  have c := accepted_crc16 p si f d h
  rwa [hu, List.take_length, CrcEq.crc16_eq_spec f hf] at c

/-- **A single flipped bit is always detected** (for the checksum code of crc.rs, frames of any length): if the decoder
    accepts `f` using all of its bytes, and `f'` differs from `f` in exactly one bit, then the decoder does not accept `f'`
    as a frame of the same extent - in either profile, with any STREAMINFO context. -/
theorem single_bit_flip_rejected (p : Profile) (si : Option SInfo) (f f' : List Nat)
    (hf : ∀ x ∈ f, x < 256) (hf' : ∀ x ∈ f', x < 256) (pre post : Bits) (b : Bool)
    (e : bytesToBits f = pre ++ b :: post) (e' : bytesToBits f' = pre ++ (!b) :: post)
    (d : Decoded) (h : decodeFrame p si f = .ok d) (hu : d.used = f.length) :
    ∀ d', decodeFrame p si f' = .ok d' → d'.used ≠ f'.length := by
  intro d' h' hu'
  have c := accepted_whole_crc16 p si f hf d h hu
  have c' := accepted_whole_crc16 p si f' hf' d' h' hu'
  rw [Spec.crc16, e] at c
  rw [Spec.crc16, e'] at c'
  exact flip_same_extent_rejected pre post b c c'

end Flac.C05
