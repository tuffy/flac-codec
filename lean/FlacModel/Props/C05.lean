/-
  Props/C05.lean — C05: damaged or invalid streams are reported as errors.
  The detection mechanism is the CRC: an error window no longer than the register always changes the checksum, whatever
  precedes and follows it, for messages of ANY length (`burst`, every register width and odd polynomial).  A single
  flipped bit is the window of length 1, for the frame's CRC-16 and the header's CRC-8.
-/
import FlacModel.Spec.Rfc
import FlacModel.Props.C04
import FlacModel.Proofs.CrcEq

namespace Flac.C05
open Flac

/-- **burst errors no longer than the register are detected**, for every register width and odd polynomial: after the
    window the two registers differ (the window enters at the top, `CrcEq.fold_eq_zeroRun`, and the zero-input run is
    injective), and different registers stay different whatever follows (`CrcEq.fold_inj`) -/
theorem burst (w poly : Nat) (hw : 0 < w) (hp : poly < 2 ^ w) (hodd : poly % 2 = 1) (pre post x y : Bits)
    (hxy : x.length = y.length) (hl : x.length ≤ w) (hne : x ≠ y) :
    Spec.crcBits w poly (pre ++ x ++ post) ≠ Spec.crcBits w poly (pre ++ y ++ post) := by
  unfold Spec.crcBits
  simp only [List.foldl_append]
  generalize hs : pre.foldl (Spec.crcStep w poly) 0 = s
  have hs : s < 2 ^ w := hs ▸ CrcEq.fold_lt w poly hp pre 0 (Nat.two_pow_pos w)
  intro h
  have h := CrcEq.fold_inj w poly hw hp hodd post _ _ (CrcEq.fold_lt w poly hp x s hs) (CrcEq.fold_lt w poly hp y s hs) h
  have hb : ∀ z : Bits, z.length = x.length → s ^^^ bitsToNat z * 2 ^ (w - x.length) < 2 ^ w := fun z hz =>
    Nat.xor_lt_two_pow hs (by
      have := Nat.mul_lt_mul_of_pos_right (hz ▸ bitsToNat_lt' z) (Nat.two_pow_pos (w - x.length))
      rwa [← Nat.pow_add, Nat.add_sub_cancel' hl] at this)
  rw [CrcEq.fold_eq_zeroRun w poly hp x (w - x.length) (by omega) s hs,
    CrcEq.fold_eq_zeroRun w poly hp y (w - x.length) (by omega) s hs, ← hxy] at h
  have h := CrcEq.xor_left_cancel (CrcEq.zeroRun_inj w poly hw hp hodd _ _ _ (hb x rfl) (hb y hxy.symm) h)
  have h := Nat.eq_of_mul_eq_mul_right (Nat.two_pow_pos _) h
  exact hne (by rw [← natToBits_bitsToNat x, ← natToBits_bitsToNat y, h, hxy])

/-- a flipped bit is a burst of length 1 -/
theorem single_bit (w poly : Nat) (hw : 0 < w) (hp : poly < 2 ^ w) (hodd : poly % 2 = 1) (pre post : Bits) (b : Bool) :
    Spec.crcBits w poly (pre ++ b :: post) ≠ Spec.crcBits w poly (pre ++ (!b) :: post) := by
  have := burst w poly hw hp hodd pre post [b] [!b] rfl hw (by cases b <;> decide)
  simpa using this

/-- **crc16_single_bit**: flipping any one bit of a message of any length changes its CRC-16;
    in particular a frame whose stored CRC-16 made the residue 0 no longer has residue 0 -/
theorem crc16_single_bit (pre post : Bits) (b : Bool) :
    Spec.crcBits 16 0x8005 (pre ++ b :: post) ≠ Spec.crcBits 16 0x8005 (pre ++ (!b) :: post) :=
  single_bit 16 0x8005 (by decide) (by decide) (by decide) pre post b

/-- **crc8_single_bit** — the same for the header checksum -/
theorem crc8_single_bit (pre post : Bits) (b : Bool) :
    Spec.crcBits 8 0x07 (pre ++ b :: post) ≠ Spec.crcBits 8 0x07 (pre ++ (!b) :: post) :=
  single_bit 8 0x07 (by decide) (by decide) (by decide) pre post b

/-- **flip_same_extent_rejected** (for the bit-serial checksum): two bit strings that differ in
    exactly one position cannot both have CRC-16 residue 0 — so a single-bit flip that leaves the
    frame's extent unchanged is always rejected -/
theorem flip_same_extent_rejected (pre post : Bits) (b : Bool)
    (h : Spec.crcBits 16 0x8005 (pre ++ b :: post) = 0) : Spec.crcBits 16 0x8005 (pre ++ (!b) :: post) ≠ 0 := by
  intro h2; exact crc16_single_bit pre post b (by rw [h, h2])

end Flac.C05
