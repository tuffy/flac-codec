/-
  Props/C11b.lean — the converse of C11: whatever the reader accepts, the writer accepts, in as many bytes as were read
  (`Rewritable`), so `blocklist_roundtrip` applies to it.  The reader forgets bytes (reserved fields, the NULs behind a
  catalog number), so it is the block list that comes back, not the file.  (The CUESHEET's part is `parseCue_sound`,
  Proofs/CueCodec.lean.)

  Every reader is taken apart along its own definition (`fun_cases`; `fun_induction` for the counted loops; the block readers
  through the inversion lemmas of Proofs/Bytes.lean): the failing branches cannot equal `.ok _`, and the one succeeding branch
  hands over each `takeBytes` step as an equation, which `takeBytes_ok_iff` turns into `input = field ++ rest` and the
  field's length.
-/
import FlacModel.Props.C11

namespace Flac.C11
open Flac Flac.Gen

theorem parseStreaminfo_wf {b : List Nat} {si : Streaminfo} (hb : bytesOk b = true) (h : parseStreaminfo b = some si) :
    streaminfoWf si = true ∧ si.minFrame < 2 ^ 24 ∧ si.maxFrame < 2 ^ 24 ∧ si.rate < 2 ^ 20 ∧ si.channels ≤ 8 ∧ si.total < 2 ^ 36 := by
  revert h
  fun_cases parseStreaminfo b <;> intro h <;> cases h
  rename_i hl v
  simp only [bne_iff_ne, ne_eq, Decidable.not_not] at hl
  -- the 18 packed bytes are a number below `2 ^ 144`; its top field is a quotient, every other one a remainder
  have hv : v < 2 ^ 128 * 2 ^ 16 := beNat_take_lt hb 18
  have hm (x k : Nat) : x % 2 ^ k < 2 ^ k := Nat.mod_lt _ (Nat.two_pow_pos k)
  exact ⟨streaminfoWf_iff.mpr ⟨Nat.div_lt_of_lt_mul hv, hm _ 16, Nat.le_add_left .., Nat.le_add_left .., Nat.succ_le_of_lt (hm _ 5),
    by rw [List.length_drop, hl], bytesOk_drop 18 hb, rfl⟩, hm _ 24, hm _ 24, hm _ 20, Nat.succ_le_of_lt (hm _ 3), hm _ 36⟩

theorem parseSeekPoints_length (n : Nat) (b : List Nat) : (parseSeekPoints n b).length = n := by
  induction n generalizing b with
  | zero => rfl
  | succ n ih => simp [parseSeekPoints, ih]

theorem parseSeekPoints_wf (n : Nat) (b : List Nat) (hb : bytesOk b = true) : (parseSeekPoints n b).all seekPtWf = true := by
  induction n generalizing b with
  | zero => rfl
  | succ n ih =>
    simp only [parseSeekPoints, List.all_cons, Bool.and_eq_true]
    refine ⟨?_, ih _ (bytesOk_drop 18 hb)⟩
    have h1 := beNat_take_lt hb 8
    have h2 := beNat_take_lt (bytesOk_drop 8 hb) 8
    have h3 := beNat_take_lt (bytesOk_drop 16 hb) 2
    split
    · rfl
    · rename_i hne
      simp only [beq_iff_eq] at hne
      simp only [seekPtWf, Bool.and_eq_true, decide_eq_true_eq]
      omega

/-- a table the reader accepts (ascending, nothing defined after a placeholder) is one the writer accepts (ascending): `last`
    is the writer's memory of the latest defined point, which the reader's `q` determines unless `q` is a placeholder -/
theorem seekAscending_of_contig : ∀ (ps : List SeekPt) (q : SeekPt) (last : Option Nat), seekContig (some q) ps = true →
    (∀ s b l, q = .defined s b l → last = some s) → seekAscending last ps = true
  | [], _, _, _, _ => rfl
  | .defined s2 b2 l2 :: r, .defined s b l, last, hc, hq => by
    obtain rfl := hq s b l rfl
    simp only [seekContig, seekAscending, Bool.and_eq_true, decide_eq_true_eq] at hc ⊢
    exact ⟨hc.1, seekAscending_of_contig r _ _ hc.2 fun _ _ _ h => by cases h; rfl⟩
  | .placeholder :: r, .defined .., _, hc, _ => seekAscending_of_contig r .placeholder _ hc nofun
  | .defined .. :: _, .placeholder, _, hc, _ => nomatch hc
  | .placeholder :: r, .placeholder, _, hc, _ => seekAscending_of_contig r .placeholder _ hc nofun

theorem seekWritable_of_contig (pts : List SeekPt) (h : seekContig none pts = true) : seekWritable pts = true := by
  cases pts with
  | nil => rfl
  | cons p ps => exact seekAscending_of_contig ps p _ h fun _ _ _ hp => hp ▸ rfl

theorem seekHasMax_false_of_wf (pts : List SeekPt) (hwf : pts.all seekPtWf = true) : seekHasMax pts = false := by
  refine List.any_eq_false.mpr fun p hp => ?_
  have := List.all_eq_true.mp hwf p hp
  cases p with
  | placeholder => exact Bool.false_ne_true
  | defined s b l =>
    simp only [seekPtWf, Bool.and_eq_true, decide_eq_true_eq] at this
    simp only [seekIsMax, beq_iff_eq]
    omega

theorem readVorbisFields_sound {fuel n : Nat} {b : List Nat} {fs : List (List Nat)} {r : List Nat}
    (h : readVorbisFields fuel n b = .ok (fs, r)) :
    b.length = (fs.flatMap fieldBytes).length + r.length ∧ fs.all utf8Valid = true := by
  fun_induction readVorbisFields fuel n b generalizing fs r <;> cases h
  · simp
  · simp
  · rename_i l b1 h1 f b2 h2 hu fs' r' h3 ih
    obtain ⟨rfl, l1⟩ := takeBytes_ok_iff.mp h1
    obtain ⟨rfl, l2⟩ := takeBytes_ok_iff.mp h2
    obtain ⟨il, iu⟩ := ih h3
    exact ⟨by simp +arith only [List.flatMap_cons, fieldBytes, List.length_append, leBytes_length, l1, il],
      by simpa [iu] using hu⟩

/-- the writer's 32-bit guards cannot fire on a comment whose whole body is below `2 ^ 32` bytes -/
theorem vorbis_body_of_lt {v : List Nat} {fs : List (List Nat)} {size : Nat} (hl : (vorbisBytes v fs).length = size)
    (hsz : size < 2 ^ 32) : ∃ bs, (Block.vorbis v fs).body = .ok bs ∧ bs.length = size := by
  have := length_le_fields fs
  have hmem (f : List Nat) (hf : f ∈ fs) := length_le_flatMap_of_mem fieldBytes hf
  have hl' := hl
  simp only [vorbisBytes, fieldBytes, List.length_append, leBytes_length] at hl' hmem
  exact ⟨_, vorbis_body_ok_iff.mpr ⟨by omega, fun f hf => by have := hmem f hf; omega, by omega, rfl⟩, hl⟩

theorem picture_body_of_lt {p : PictureVal} {size : Nat} (hl : (pictureBytes p).length = size) (hsz : size < 2 ^ 32) :
    ∃ bs, (Block.picture p).body = .ok bs ∧ bs.length = size := by
  have hl' := hl
  simp only [pictureBytes, List.length_append, beBytes_length] at hl'
  have h32 : p.mime.length < 2 ^ 32 ∧ p.desc.length < 2 ^ 32 ∧ p.data.length < 2 ^ 32 := by omega
  exact ⟨_, picture_body_ok_iff.mpr ⟨h32.1, h32.2.1, h32.2.2, rfl⟩, hl⟩

/-- what the converse direction needs of one parsed block: it satisfies the invariants, has the
    type that was read, and the writer accepts it with a body of exactly the size that was read -/
def Rewritable (ty size : Nat) (b : Block) : Prop :=
  blockWf b = true ∧ b.type = ty ∧ ∃ bs, b.body = .ok bs ∧ bs.length = size

/-- every block the reader can produce from a body of the declared size is `Rewritable` -/
theorem parseBody_sound (ty size : Nat) (body : List Nat) (hb : bytesOk body = true) (hlen : body.length = size)
    (hsz : size ≤ maxBlockSize) (b : Block) (h : parseBody ty size body = .ok (b, [])) : Rewritable ty size b := by
  have h32 : size < 2 ^ 32 := Nat.lt_of_le_of_lt hsz (by decide)
  revert h
  fun_cases parseBody ty size body <;> intro h <;> cases h
  next x si hp ht =>   -- STREAMINFO
    obtain ⟨rfl, hl⟩ := takeBytes_ok_iff.mp ht
    rw [List.append_nil] at hb hlen
    obtain ⟨w, f1, f2, f3, f4, f5⟩ := parseStreaminfo_wf hb hp
    exact ⟨w, rfl, _, streaminfo_body_ok_iff.mpr ⟨f1, f2, f3, f4, f5, rfl⟩,
      (streaminfoBytes_length w).trans (hl.symm.trans hlen)⟩
  next =>   -- PADDING
    exact ⟨decide_eq_true hsz, rfl, List.replicate size 0, rfl, List.length_replicate ..⟩
  next id r h1 hs4 d h2 =>   -- APPLICATION
    obtain ⟨rfl, l1⟩ := takeBytes_ok_iff.mp h1
    obtain ⟨rfl, l2⟩ := takeBytes_ok_iff.mp h2
    exact ⟨decide_eq_true (beNat_lt_pow (bytesOk_append.mp hb).1 (Nat.le_of_eq l1)), rfl, beBytes 4 (beNat id) ++ d, rfl,
      by rw [List.length_append, beBytes_length, l2, Nat.add_sub_of_le (Nat.not_lt.mp hs4)]⟩
  next hmod x hchk ht =>   -- SEEKTABLE
    obtain ⟨rfl, -⟩ := takeBytes_ok_iff.mp ht
    rw [List.append_nil] at hb hlen
    simp only [Bool.or_eq_true, decide_eq_true_eq, Bool.not_eq_true', not_or, Nat.not_lt, Bool.not_eq_false] at hchk
    simp only [bne_iff_ne, ne_eq, Decidable.not_not] at hmod
    have hwf := parseSeekPoints_wf (size / 18) x hb
    refine ⟨by simp only [blockWf, hwf, hchk.2, decide_eq_true hchk.1, Bool.and_self], rfl, _,
      seektable_body_ok_iff.mpr ⟨seekHasMax_false_of_wf _ hwf, seekWritable_of_contig _ hchk.2, rfl⟩, ?_⟩
    rw [flatMap_seek_length, parseSeekPoints_length, Nat.mul_div_cancel' (Nat.dvd_of_mod_eq_zero hmod)]
  next l b1 h1 v b2 h2 hu nb b3 h3 fs hn h4 =>   -- VORBIS_COMMENT
    obtain ⟨rfl, l1⟩ := takeBytes_ok_iff.mp h1
    obtain ⟨rfl, l2⟩ := takeBytes_ok_iff.mp h2
    obtain ⟨rfl, l3⟩ := takeBytes_ok_iff.mp h3
    obtain ⟨il, iu⟩ := readVorbisFields_sound h4
    refine ⟨by simp only [blockWf, iu, Bool.and_true]; simpa using hu, rfl, vorbis_body_of_lt ?_ h32⟩
    simp +arith only [← hlen, vorbisBytes, List.length_append, leBytes_length, List.length_nil, l1, l3, il]
  next c hp =>   -- CUESHEET
    obtain ⟨w, bs, hbs, hl⟩ := parseCue_sound hb hp
    exact ⟨w, rfl, bs, hbs, hl.trans hlen⟩
  next t b1 h1 hty ml b2 h2 mime b3 h3 hum dl b4 h4 desc b5 h5 hud nums b6 h6 data h7 =>   -- PICTURE
    obtain ⟨rfl, l1⟩ := takeBytes_ok_iff.mp h1
    obtain ⟨rfl, l2⟩ := takeBytes_ok_iff.mp h2
    obtain ⟨rfl, l3⟩ := takeBytes_ok_iff.mp h3
    obtain ⟨rfl, l4⟩ := takeBytes_ok_iff.mp h4
    obtain ⟨rfl, l5⟩ := takeBytes_ok_iff.mp h5
    obtain ⟨rfl, l6⟩ := takeBytes_ok_iff.mp h6
    obtain ⟨rfl, l7⟩ := takeBytes_ok_iff.mp h7
    simp only [bytesOk_append] at hb
    have kn := hb.2.2.2.2.2.1
    -- the four numbers are 4-byte slices of the 20-byte field (`256 ^ 4` and `2 ^ 32` are the same numeral)
    have num (k : Nat) : beNat ((nums.drop k).take 4) < 2 ^ 32 := beNat_take_lt (bytesOk_drop k kn) 4
    refine ⟨pictureWf_iff.mpr ⟨Nat.not_lt.mp hty, by simpa using hum, by simpa using hud, num 0, num 4, num 8, num 12⟩, rfl,
      picture_body_of_lt ?_ h32⟩
    simp +arith only [← hlen, pictureBytes, List.length_append, beBytes_length, List.length_nil, l1, l2, l4, l6]

/-- whatever `readBlock` accepts satisfies the invariants and is written back by `writeBlock` (with
    the same `last` flag) to exactly as many bytes as were consumed -/
theorem readBlock_sound {bytes : List Nat} {last : Bool} {b : Block} {rest : List Nat} (hb : bytesOk bytes = true)
    (h : readBlock bytes = .ok (last, b, rest)) :
    blockWf b = true ∧ (∃ x, writeBlock last b = .ok x ∧ bytes.length = x.length + rest.length) ∧ bytesOk rest = true := by
  obtain ⟨hd, sz, tl, rfl, hsz3, hlen, hp, rfl, rfl⟩ := readBlock_of_ok h
  obtain ⟨ksz, ktl⟩ := bytesOk_append.mp (bytesOk_cons.mp hb).2
  -- three size bytes: the declared size is within the 24-bit limit
  have hsz : beNat sz ≤ maxBlockSize := Nat.le_of_lt_succ (beNat_lt_pow ksz (Nat.le_of_eq hsz3))
  obtain ⟨w, -, bs, hbs, hl⟩ := parseBody_sound _ _ _ (bytesOk_take _ ktl) (List.length_take_of_le hlen) hsz b hp
  refine ⟨w, ⟨_, writeBlock_ok_iff.mpr ⟨bs, hbs, hl ▸ hsz, rfl⟩, ?_⟩, bytesOk_drop _ ktl⟩
  simp only [List.length_cons, List.length_append, List.length_nil, List.length_drop, beBytes_length, hsz3, hl]
  omega

theorem readRest_sound {fuel : Nat} {s : Seen} {bytes : List Nat} {used : Nat} {bl : List Block} {u : Nat} (hb : bytesOk bytes = true)
    (h : readRest fuel s bytes used = .ok (bl, u)) :
    bl ≠ [] ∧ (∀ b ∈ bl, blockWf b = true) ∧ ∃ y, writeRest s bl = .ok y ∧ u = used + y.length := by
  induction fuel generalizing s bytes used bl with
  | zero => cases h
  | succ fuel ih =>
    obtain ⟨_, b, rest, s', hrb, hc, hcase⟩ := readRest_succ_of_ok h
    obtain ⟨w, ⟨x, hx, hl⟩, hrest⟩ := readBlock_sound hb hrb
    have hn : bytes.length - rest.length = x.length := by rw [hl, Nat.add_sub_cancel]
    rcases hcase with ⟨rfl, rfl, rfl⟩ | ⟨rfl, bs, hr, rfl⟩
    · exact ⟨by simp, by simpa using w, _, writeRest_cons_ok_iff.mpr ⟨s', x, [], hc, hx, rfl, rfl⟩, by rw [hn, List.append_nil]⟩
    · obtain ⟨hne, hw, y, hy, rfl⟩ := ih hrest hr
      have hemp : bs.isEmpty = false := by simpa using hne
      exact ⟨by simp, by simpa [w] using hw, _, writeRest_cons_ok_iff.mpr ⟨s', x, y, hc, hemp ▸ hx, hy, rfl⟩,
        by rw [hn, List.length_append, Nat.add_assoc]⟩

/-- whatever `read_blocks` accepts is a list of well-formed blocks that `write_blocks` accepts, in exactly as many bytes as
    were read -/
theorem readBlocks_sound {bytes : List Nat} {bl : List Block} {n : Nat} (hb : bytesOk bytes = true)
    (h : readBlocks bytes = .ok (bl, n)) : (∀ b ∈ bl, blockWf b = true) ∧ ∃ out, writeBlocks bl = .ok out ∧ out.length = n := by
  obtain ⟨_, si, rest, h4, hrb, hcase⟩ := readBlocks_of_ok h
  obtain ⟨w, ⟨x, hx, hl⟩, hrest⟩ := readBlock_sound (bytesOk_drop 4 hb) hrb
  have hn : bytes.length - rest.length = x.length + 4 := by rw [List.length_drop] at hl; omega
  rcases hcase with ⟨rfl, rfl, rfl⟩ | ⟨rfl, bs, hr, rfl⟩
  · exact ⟨by simpa using w, _, writeBlocks_ok_iff.mpr ⟨si, [], x, [], rfl, hx, rfl, rfl⟩, by rw [hn, List.append_nil]; rfl⟩
  · obtain ⟨hne, hw, y, hy, rfl⟩ := readRest_sound hrest hr
    have hemp : bs.isEmpty = false := by simpa using hne
    exact ⟨by simpa [w] using hw, _, writeBlocks_ok_iff.mpr ⟨si, bs, x, y, rfl, hemp ▸ hx, hy, rfl⟩,
      by simp only [hn, List.length_cons, List.length_append]; omega⟩

/-- **The converse direction.**  Any byte sequence the reader accepts yields a block list that the
    writer accepts, and reading what the writer produces returns an equal list. -/
theorem read_then_write_then_read (bytes : List Nat) (hb : bytesOk bytes = true) (bl : List Block) (n : Nat)
    (h : readBlocks bytes = .ok (bl, n)) :
    ∃ out, writeBlocks bl = .ok out ∧ readBlocks out = .ok (bl, out.length) := by
  obtain ⟨hw, out, ho, -⟩ := readBlocks_sound hb h
  exact ⟨out, ho, by simpa using blocklist_roundtrip bl hw out ho []⟩

end Flac.C11
