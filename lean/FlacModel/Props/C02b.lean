/-
  Props/C02b.lean — C02 at the level of whole frames: the serialization of every frame that is well-formed AND meets the
  additional MUSTs of RFC 9639 (reserved bit clear, depth at least 4, zero padding, 36-bit frame number, residuals within the
  RFC range, every reconstructed sample within its depth - the executable predicates `Spec.frameWf` / `Spec.frameSamplesFit`)
  is accepted by the independent RFC-level decoder, which reconstructs exactly the specified samples.
-/
import FlacModel.Props.C02
import FlacModel.Props.C03
import FlacModel.Proofs.Codec
import FlacModel.Proofs.CrcEq
import FlacModel.Model.FrameWf
import FlacModel.Proofs.FrameInv
import FlacModel.Proofs.Layout

namespace Flac.C02
open Flac Gen

/-- **Serialized strictly well-formed frames are conforming**: the independent RFC-level decoder accepts them, consumes all
    their bytes and reconstructs the specified samples. -/
theorem spec_accepts_serialized (si : Option SInfo) (f : Frame) (w : FrameWf si f)
    (hwf : Spec.frameWf f = true) (hfit : Spec.frameSamplesFit f = true) :
    ∃ d, Spec.specDecode si f.serialize = .ok d ∧ d.channels = Spec.frameSamples f ∧ d.used = f.serialize.length
      ∧ d.frame.hdr = f.hdr ∧ d.frame.subs = f.subs := by
  have hp := parseFrame_serialize Spec.rfcLayout false false si f w (decLayout_eq_rfcLayout ▸ w.subs)
  have hb := serialize_bytes_lt f
  -- from here on the serialization is just some bytes that parse as stated (kept opaque: a unifier that is allowed to
  -- unfold `Frame.serialize` when it meets `_.used = f.serialize.length` does so all the way down)
  generalize f.serialize = bytes at hp hb ⊢
  -- the parser's (table-driven) checksum verdicts are positive; bit-serially that is remainder 0
  obtain ⟨k8, k16⟩ := parseFrame_crc hp
  dsimp only at k8 k16
  have h8 := crc8Valid_eq_zero _ k8.symm
  have h16 := crc16Valid_eq_zero _ k16.symm
  rw [Flac.CrcEq.crc8_eq_spec _ (bytes_lt_take _ hb _)] at h8
  rw [Flac.CrcEq.crc16_eq_spec _ (bytes_lt_take _ hb _)] at h16
  -- neither test of the specification looks at the footer field, which is all the parsed frame differs in
  have ewf : ∀ c, Spec.frameWf { f with footer := c } = Spec.frameWf f := fun _ => rfl
  have efit : ∀ c, Spec.frameSamplesFit { f with footer := c } = Spec.frameSamplesFit f := fun _ => rfl
  have esam : ∀ c, Spec.frameSamples { f with footer := c } = Spec.frameSamples f := fun _ => rfl
  have z : ((0 : Nat) != 0) = false := rfl
  simp only [Spec.specDecode, hp, h8, h16, ewf, efit, esam, hwf, hfit, z, Bool.false_eq_true, if_false, Bool.not_true]
  exact ⟨_, rfl, rfl, rfl, rfl, rfl⟩

/-- non-vacuity: the one-sample mono frame `FF F8 69 08 00 00 1D 00 00 00 A0 27` parses to a frame that satisfies every hypothesis
    of `spec_accepts_serialized` (executable forms), and the specification decoder indeed accepts those bytes -/
example : (match parseFrame decLayout true none [255, 248, 105, 8, 0, 0, 29, 0, 0, 0, 160, 39] with
    | .ok pr => frameWfB none pr.frame && Spec.frameWf pr.frame && Spec.frameSamplesFit pr.frame
        && (match Spec.specDecode none [255, 248, 105, 8, 0, 0, 29, 0, 0, 0, 160, 39] with | .ok d => d.channels == [[0]] | .error _ => false)
    | .error _ => false) = true := by decide +kernel

end Flac.C02
