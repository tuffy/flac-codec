/-
  Props/C16b.lean — C16, the writer's side of "self-describing": every sample rate, bit depth and block length `FlacStreamWriter::write`
  accepts gets header codes under which the frame header alone carries them (the conditions of `FrameWf none`, the domain of
  `C16.written_frame_standalone`), and parameters that only STREAMINFO could carry are refused.
-/
import FlacModel.Model.RateEnc
import FlacModel.Props.C16
import FlacModel.Proofs.CodecB

namespace Flac.C16
open Flac Flac.Gen

/-! The three write tables, each checked once entry by entry: the code the writer picks is read back as the value, fits its field and is
    none of the special codes. -/

theorem rate_write_all : ∀ p ∈ sampleRateWriteFixed, lookup sampleRateCodeFixed p.2 = some p.1 ∧ p.2 < 2 ^ 4
    ∧ sampleRateCodeInvalid.contains p.2 = false ∧ sampleRateCodeStreaminfo.contains p.2 = false
    ∧ sampleRateCodeKHz.contains p.2 = false ∧ sampleRateCodeHz.contains p.2 = false ∧ sampleRateCodeDHz.contains p.2 = false := by decide

/- the first conjunct of each (the reader maps the code back) is also part of `C02.gen_write_read_inverse`; the files may not
   import each other, so it is evaluated here again -/
theorem bps_write_all : ∀ p ∈ bpsWriteFixed, lookup bpsCodeFixed p.2 = some p.1 ∧ p.2 < 2 ^ 3
    ∧ bpsCodeInvalid.contains p.2 = false ∧ bpsCodeStreaminfo.contains p.2 = false ∧ p.1 ≤ 32 := by decide

theorem bs_write_all : ∀ p ∈ blockSizeWriteFixed, lookup blockSizeCodeFixed p.2 = some p.1 ∧ p.2 < 2 ^ 4
    ∧ blockSizeCodeInvalid.contains p.2 = false ∧ blockSizeCodeU8.contains p.2 = false ∧ blockSizeCodeU16.contains p.2 = false := by decide

/-- **Accepted rates are carried by the header itself**: the code is not the "see STREAMINFO" code, not the invalid code, fits its 4 bits,
    and the rate satisfies the well-formedness condition of that code without any STREAMINFO. -/
theorem accepted_rate_self_describing (rate c : Nat) (h : streamWriterRate rate = some c) :
    c < 2 ^ 4 ∧ sampleRateCodeInvalid.contains c = false ∧ sampleRateCodeStreaminfo.contains c = false ∧ rateOkB none c rate = true := by
  unfold streamWriterRate encRateCode at h
  revert h
  -- by the class of variant `try_from` chooses; `h` then reduces by evaluating the matches on the class number.  The cases are the
  -- guards of `encRateClass` in order: case1 a rate literal (class 0), case2 whole kHz below 255 (1), case3 tens of Hz below 65535 (2),
  -- case4 below 65535 Hz (3), then class 4 (`rate < 2^20`) and no class
  fun_cases encRateClass rate <;> intro h
  case case1 =>
    change lookup sampleRateWriteFixed rate = some c at h
    obtain ⟨hl, a1, a2, a3, a4, a5, a6⟩ := rate_write_all _ (lookup_mem h)
    refine ⟨a1, a2, a3, ?_⟩
    simp only [rateOkB, a3, a4, a5, a6, Bool.false_eq_true, if_false, hl, Option.getD_some, beq_self_eq_true]
  -- a rate with an extra field: the guard of its class is the condition of its code with a slightly tighter bound
  case case2 _ hk =>
    obtain rfl : sampleRateWriteKHz = c := Option.some.inj h
    obtain ⟨hm, hd⟩ := Bool.and_eq_true_iff.mp hk
    exact ⟨by decide, by decide, by decide, show ((rate % 1000 == 0) && decide (rate / 1000 < 2 ^ 8)) = true from
      Bool.and_eq_true_iff.mpr ⟨hm, decide_eq_true (Nat.lt_trans (of_decide_eq_true hd) (by decide))⟩⟩
  case case3 _ _ hk =>
    obtain rfl : sampleRateWriteDHz = c := Option.some.inj h
    obtain ⟨hm, hd⟩ := Bool.and_eq_true_iff.mp hk
    exact ⟨by decide, by decide, by decide, show ((rate % 10 == 0) && decide (rate / 10 < 2 ^ 16)) = true from
      Bool.and_eq_true_iff.mpr ⟨hm, decide_eq_true (Nat.lt_trans (of_decide_eq_true hd) (by decide))⟩⟩
  case case4 _ _ _ hk =>
    obtain rfl : sampleRateWriteHz = c := Option.some.inj h
    exact ⟨by decide, by decide, by decide, show ((rate % 1 == 0) && decide (rate / 1 < 2 ^ 16)) = true from
      Bool.and_eq_true_iff.mpr ⟨by rw [Nat.mod_one]; rfl,
        decide_eq_true (by rw [Nat.div_one]; exact Nat.lt_trans (of_decide_eq_true hk) (by decide))⟩⟩
  -- only STREAMINFO could carry the rate (refused: `streamWriterRefusesStreaminfoRate`), or no variant at all
  all_goals cases h

/-- rates that only STREAMINFO could carry are refused, whatever else is true of them -/
theorem streaminfo_only_rate_refused (rate : Nat) (h : encRateClass rate = some 4) : streamWriterRate rate = none := by
  simp [streamWriterRate, h, show streamWriterRefusesStreaminfoRate = true from rfl]

/-- an accepted depth is one of the write table's (any other would need STREAMINFO: `streamWriterRefusesStreaminfoBps`) -/
theorem accepted_bps_entry {bps c : Nat} (h : streamWriterBps bps = some c) : (bps, c) ∈ bpsWriteFixed := by
  unfold streamWriterBps at h
  split at h
  · exact lookup_mem h
  · cases h

/-- **Accepted depths are carried by the header itself** (the depth conditions of `FrameWf none`), and every other depth is refused. -/
theorem accepted_bps_self_describing (bps c : Nat) (h : streamWriterBps bps = some c) :
    c < 2 ^ 3 ∧ bpsCodeInvalid.contains c = false ∧ bpsCodeStreaminfo.contains c = false ∧ lookup bpsCodeFixed c = some bps := by
  obtain ⟨hl, h3, h4, h5, -⟩ := bps_write_all _ (accepted_bps_entry h)
  exact ⟨h3, h4, h5, hl⟩

/-- **Accepted block lengths are carried by the header itself**: 1 … 65535 samples per channel get a code whose well-formedness condition
    the length satisfies; 0 and anything longer is refused. -/
theorem accepted_block_size_self_describing (n c : Nat) (h : encBlockSizeCode n = some c) :
    1 ≤ n ∧ n ≤ 65535 ∧ c < 2 ^ 4 ∧ blockSizeCodeInvalid.contains c = false ∧ blockSizeOkB c n = true := by
  -- the first guard of `encBlockSizeCode` refuses 0 and lengths beyond 16 bits
  have hn : 1 ≤ n ∧ n ≤ 65535 := by
    by_cases hg : n = 0 ∨ n > 65535
    · rw [encBlockSizeCode, if_pos hg] at h; cases h
    · omega
  refine ⟨hn.1, hn.2, ?_⟩
  revert h
  -- case1: that guard; case2: the write table has the length; case3 / case4: it goes into the 8-bit / the 16-bit field
  fun_cases encBlockSizeCode n <;> intro h
  case case1 => cases h
  all_goals obtain rfl := Option.some.inj h
  case case2 c hl =>
    obtain ⟨l1, l2, l3, l4, l5⟩ := bs_write_all _ (lookup_mem hl)
    refine ⟨l2, l3, ?_⟩
    simp only [blockSizeOkB, l4, l5, Bool.false_eq_true, if_false, l1, Option.getD_some, beq_self_eq_true]
  case case3 _ h8 =>
    exact ⟨by decide, by decide, show (decide (1 ≤ n) && decide (n ≤ 256)) = true from
      Bool.and_eq_true_iff.mpr ⟨decide_eq_true hn.1, decide_eq_true h8⟩⟩
  case case4 =>
    exact ⟨by decide, by decide, show (decide (1 ≤ n) && decide (n ≤ 65535)) = true from
      Bool.and_eq_true_iff.mpr ⟨decide_eq_true hn.1, decide_eq_true hn.2⟩⟩

/-- `k ≥ 2` bytes carry `(7 − k) + 6(k − 1)` payload bits -/
theorem numWfB_of_lt {v k : Nat} (h2 : 2 ≤ k) (h7 : k ≤ 7) (h : v < 64 ^ (k - 1) * 2 ^ (7 - k)) : numWfB v k = true := by
  simp only [numWfB, h2, h7, Nat.div_lt_of_lt_mul h, decide_true, Bool.and_self, Bool.or_true]

theorem number_wf (v : Nat) (h : v < 2 ^ 36) : numWfB v (encNumberBytes v) = true := by
  fun_cases encNumberBytes v
  case case1 h1 => simp only [numWfB, beq_self_eq_true, Bool.true_and, Bool.or_eq_true, decide_eq_true_eq]; exact .inl h1
  case case7 => exact numWfB_of_lt (by decide) (by decide) h
  -- the thresholds of `encNumberBytes` are those capacities: `2^11 = 64·2^5`, `2^16 = 64²·2^4`, …, `2^36 = 64^6·2^0`, by evaluation
  all_goals exact numWfB_of_lt (by decide) (by decide) ‹_›

theorem streamWriterHeader_some {rate bps : Nat} {a : Assign} {n number hcrc : Nat} {h : Header}
    (hh : streamWriterHeader rate bps a n number hcrc = some h) :
    ∃ rc bc sc, streamWriterRate rate = some rc ∧ streamWriterBps bps = some bc ∧ encBlockSizeCode n = some sc ∧ assignOkB a = true
      ∧ h = { blocking := false, bsCode := sc, blockSize := n, rateCode := rc, rate := rate, assign := a, bpsCode := bc, bps := bps,
              reserved2 := false, number := number, numberBytes := encNumberBytes number, hcrc := hcrc } := by
  unfold streamWriterHeader at hh
  split at hh
  · rename_i rc bc sc hr hb hs
    split at hh
    · exact ⟨rc, bc, sc, hr, hb, hs, ‹_›, (Option.some.inj hh).symm⟩
    · cases hh
  · cases hh

/-- the header checksum is not among the fields it covers -/
theorem writeHeaderFields_hcrc (h : Header) (c : Nat) : writeHeaderFields { h with hcrc := c } = writeHeaderFields h := rfl

theorem streamWriterHeader_hcrc {rate bps : Nat} {a : Assign} {n number c0 : Nat} {h : Header}
    (hh : streamWriterHeader rate bps a n number c0 = some h) (c : Nat) :
    streamWriterHeader rate bps a n number c = some { h with hcrc := c } := by
  obtain ⟨rc, bc, sc, hr, hb, hs, hch, rfl⟩ := streamWriterHeader_some hh
  simp only [streamWriterHeader, hr, hb, hs, hch, if_true]

/-- **Every header the stream writer builds for parameters it accepts is well-formed without STREAMINFO** (`headerWfB none`, proved sound
    for `HeaderWf none`, the header part of the domain of `C16.written_frame_standalone`): whatever rate, depth, channel assignment, block
    length and frame number it was asked for, either it refuses or the header it writes carries all of them by itself. -/
theorem stream_writer_header_wf (rate bps : Nat) (a : Assign) (n number hcrc : Nat) (hnum : number < 2 ^ 36) (hc : hcrc < 2 ^ 8) (h : Header)
    (hh : streamWriterHeader rate bps a n number hcrc = some h) : headerWfB none h = true := by
  obtain ⟨rc, bc, sc, hr, hb, hs, hch, rfl⟩ := streamWriterHeader_some hh
  obtain ⟨r1, r2, r3, r4⟩ := accepted_rate_self_describing rate rc hr
  obtain ⟨b1, b2, b3, b4⟩ := accepted_bps_self_describing bps bc hb
  obtain ⟨s1, s2, s3, s4, s5⟩ := accepted_block_size_self_describing n sc hs
  simp only [headerWfB, s3, s4, r1, r2, r3, b1, b2, b3, b4, r4, s5, number_wf number hnum, hc, hch, decide_true,
    Bool.not_false, Bool.and_self, Option.isNone_none, Bool.and_true, Bool.false_eq_true, if_false,
    Option.getD_some, beq_self_eq_true]

/-- the frame the stream writer emits for parameters it accepts is well-formed without any STREAMINFO.  The header is built with checksum
    0 and the checksum of its fields put in afterwards: any first value would do, the checksum is not among the fields it covers
    (`streamWriterHeader_hcrc`). -/
theorem stream_writer_frame_wf (rate bps : Nat) (a : Assign) (n number : Nat) (hnum : number < 2 ^ 36) (h0 : Header)
    (hh : streamWriterHeader rate bps a n number 0 = some h0) (subs : List Subframe) (padding : Bits) (footer : Nat)
    (hcount : subs.length = a.count) (hsubs : subsWf decLayout a n bps subs 0) (hpad : padding.length < 8)
    (hal : ((writeSubframes a bps subs 0).length + padding.length) % 8 = 0) :
    FrameWf none { hdr := { h0 with hcrc := crc8 (bitsToBytes (writeHeaderFields h0)) }, subs := subs, padding := padding, footer := footer } := by
  have hh' := streamWriterHeader_hcrc hh (crc8 (bitsToBytes (writeHeaderFields h0)))
  have hwf := headerWfB_sound none _ (stream_writer_header_wf rate bps a n number _ hnum (crc8_lt _) _ hh')
  obtain ⟨rc, bc, sc, hr, hb, hs, hch, rfl⟩ := streamWriterHeader_some hh
  refine { hdr := hwf, hcrc := ?_, check := rfl, bps := (bps_write_all _ (accepted_bps_entry hb)).2.2.2.2, count := hcount, subs := hsubs, padLt := hpad,
           aligned := hal }
  -- not `rfl`: with the sync code in view the unifier would start evaluating `crc8`
  dsimp only
  exact congrArg (fun b => crc8 (bitsToBytes b)) (writeHeaderFields_hcrc _ _).symm

/-- **Every frame the stream writer emits stands alone.**  Take any parameters it accepts, any channel assignment, and any subframes
    the encoder's search may produce for them (well-formed for that header: `subsWf`), byte-aligned with zero to seven padding bits:
    the frame is well-formed WITHOUT any STREAMINFO (`stream_writer_frame_wf`), so (`C16.written_frame_standalone`) it decodes from its
    own bytes alone to the samples its subframes expand to. -/
theorem stream_writer_frame_standalone (p : Profile) (rate bps : Nat) (a : Assign) (n number : Nat) (hnum : number < 2 ^ 36) (h0 : Header)
    (hh : streamWriterHeader rate bps a n number 0 = some h0) (subs : List Subframe) (padding : Bits) (footer : Nat)
    (hcount : subs.length = a.count) (hsubs : subsWf decLayout a n bps subs 0) (hpad : padding.length < 8)
    (hal : ((writeSubframes a bps subs 0).length + padding.length) % 8 = 0)
    (xss out : List (List Int))
    (hx : subsDecode p h0.assign h0.blockSize h0.bps subs xss 0) (hr : recorrelate p h0.assign h0.bps xss = .ok out) :
    let f : Frame := { hdr := { h0 with hcrc := crc8 (bitsToBytes (writeHeaderFields h0)) }, subs := subs, padding := padding, footer := footer }
    Standalone p f.serialize { hdr := f.hdr, channels := out, used := f.serialize.length } :=
  written_frame_standalone p _ xss out (stream_writer_frame_wf rate bps a n number hnum h0 hh subs padding footer hcount hsubs hpad hal) hx hr

/-- accepted and refused parameters of each kind: a rate of each self-describing class, two STREAMINFO-only rates, one of no class; depths
    with and without a code; lengths in the table, in the 8-bit and in the 16-bit field, 0 and 65536; a header built and one refused -/
example : streamWriterRate 44100 = some 9 ∧ streamWriterRate 12000 = some 12 ∧ streamWriterRate 11025 = some 13 ∧ streamWriterRate 655340 = some 14
    ∧ streamWriterRate 768000 = none ∧ streamWriterRate 65537 = none ∧ streamWriterRate 2000000 = none
    ∧ streamWriterBps 16 = some 4 ∧ streamWriterBps 32 = some 7 ∧ streamWriterBps 10 = none ∧ streamWriterBps 1 = none
    ∧ encBlockSizeCode 4096 = some 12 ∧ encBlockSizeCode 100 = some 6 ∧ encBlockSizeCode 1000 = some 7 ∧ encBlockSizeCode 0 = none
    ∧ encBlockSizeCode 65536 = none
    ∧ (streamWriterHeader 44100 16 (.indep 2) 4096 7 0).isSome = true ∧ (streamWriterHeader 768000 16 (.indep 2) 4096 7 0).isSome = false := by decide

end Flac.C16
