/-
  Props/C01d.lean — C01 for whole FILES: the metadata section the block writer emits (`write_blocks`, model
  `writeBlocks`) followed by well-formed frames is decoded by the file readers' model (`fileDecode`: "fLaC" tag,
  block headers, STREAMINFO, then the frame loop) to exactly the frames' samples, with the STREAMINFO that was written.
-/
import FlacModel.Props.C01c
import FlacModel.Props.C11
import FlacModel.Proofs.FileHead
import FlacModel.Props.C07b

namespace Flac.C01
open Flac Gen

/-- **A whole file is lossless.**  The metadata section written by `write_blocks` for any block list headed by a well-formed
    STREAMINFO with a declared total, followed by ANY sequence of frames that are well-formed against that STREAMINFO and whose
    block sizes add up to the total, is decoded by the file readers' model - tag, block walk, STREAMINFO, frame loop with its
    sample accounting - to exactly those frames' samples, in order, with a clean end of stream; trailing bytes are ignored. -/
theorem file_lossless (p : Profile) (si : Streaminfo) (rest : List Block) (hw : C11.streaminfoWf si = true) (out : List Nat)
    (h : writeBlocks (.streaminfo si :: rest) = .ok out) (htot : si.total ≠ 0)
    (items : List (Frame × List (List Int) × List (List Int))) (extra : List Nat)
    (hf : ∀ it ∈ items, FrameWf (some { rate := si.rate, channels := si.channels, bps := si.bps, maxBlock := si.maxBlock }) it.1
      ∧ subsDecode p it.1.hdr.assign it.1.hdr.blockSize it.1.hdr.bps it.1.subs it.2.1 0
      ∧ recorrelate p it.1.hdr.assign it.1.hdr.bps it.2.1 = .ok it.2.2)
    (hblocks : blocksOk (items.map (·.1.hdr.blockSize)) si.total) :
    ∃ hd, hd.si = si ∧
      fileDecode p (out ++ ((items.map (·.1.serialize)).flatten ++ extra))
        = .ok { head := hd, frames := items.map (·.2.2), stop := none } := by
  obtain ⟨hd, h2, h1⟩ := fileDecode_written p si rest hw out h ((items.map (·.1.serialize)).flatten ++ extra)
  refine ⟨hd, h2, ?_⟩
  have hlen : items.length ≤ (items.flatMap (·.1.serialize)).length :=
    length_le_length_flatMap _ items fun it _ => serialize_length_pos it.1
  rw [h1, frames_loop p _ si.total htot items extra hf hblocks _
    (by rw [List.length_append, List.length_append, ← List.flatMap_def]; omega)]

end Flac.C01
