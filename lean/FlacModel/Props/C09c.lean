/-
  Props/C09c.lean — C09, the MD5 clause at the level of what is hashed: whichever front-end and byte order supplied the PCM and
  however it was cut into write calls, the bytes fed to the MD5 are the little-endian serialisation (`ceil(bps/8)` bytes per sample,
  two's complement = sign-extended to the byte width) of exactly the samples in the blocks handed to the encoder.
  (That STREAMINFO then stores the digest of those bytes is `md5 0.8`, trusted, and is compared on every generated file.)
-/
import FlacModel.Props.C09b
import FlacModel.Props.C08b

namespace Flac.C09
open Flac

/-- what the sample front-ends hash for a list of blocks (`update_md5`): `LittleEndian::iN_to_bytes` of every sample -/
def sampleFrontMd5Input (n : Nat) (blocks : List (List Int)) : List Nat := blocks.flatten.flatMap (sampleBytes n false)

/-- **Byte front-end**: for samples that fit their `n` bytes, serialised in either byte order and written in any pieces, the bytes hashed
    are those the sample front-end would hash for the same PCM — and the blocks encoded are the same (C08.byte_frontend_blocks), so the
    digest describes exactly the audio in the file. -/
theorem md5_input_front_end_independent (n F q : Nat) (hn : 1 ≤ n ∧ n ≤ 4) (hF : 0 < F) (be : Bool) (xs : List Int)
    (hx : ∀ x ∈ xs, C08.inRange n x) (ws : List (List Nat)) (hws : ws.flatten = xs.flatMap (sampleBytes n be)) :
    ((ws.foldl (Wr.write (n * F)) Wr.init).finalize (n * q)).flatMap (byteFrontMd5Input n be)
        = sampleFrontMd5Input n (((Wr.init : Wr Int).write F xs).finalize q)
      ∧ ((ws.foldl (Wr.write (n * F)) Wr.init).finalize (n * q)).map (byteFrontSamples n be) = ((Wr.init : Wr Int).write F xs).finalize q :=
  ⟨C08.byte_frontend_md5 n F q hn hF be xs ws hws, C08.byte_frontend_blocks n F q hn hF be xs hx ws hws⟩

/-- what is hashed is the serialisation of what is encoded: a trailing partial PCM frame is in neither -/
theorem md5_input_is_encoded_pcm (n F q : Nat) (hF : 0 < F) (hq : 0 < q) (hdiv : q ∣ F) (xs : List Int) :
    sampleFrontMd5Input n (((Wr.init : Wr Int).write F xs).finalize q) = (xs.take (xs.length - xs.length % q)).flatMap (sampleBytes n false) := by
  rw [sampleFrontMd5Input, (C08.partial_pcm_frame_dropped F q hF hq hdiv xs _ (C08.write_init_inv F hF xs)).1]

end Flac.C09
