/-
  Props/C20.lean — cue sheet text import reproduces the layout the text describes.

  The importer is `cueParse = interp ∘ map classify ∘ lines`, and `interp` is a fold of `stepTok` over the classified lines followed
  by `finishParse`.  The theorems below are about `interp` on the lines of any well-formed layout: every step on such a line
  succeeds and is computed by a lemma, and the loop over the tracks is followed to the end of the text, the track in progress
  being closed by the next TRACK line or by the end.  Track ranges and export-then-import are corollaries; the MM:SS:FF
  arithmetic stands beside them.
-/
import FlacModel.Props.C12

namespace Flac.C20
open Flac Flac.Gen Flac.C12

/-! ### what the importer's steps return when they succeed -/

theorem pushIndex_nil (p : Profile) {max n : Nat} (hmax : 0 < max) (hn : n = 0 ∨ n = 1) :
    pushIndex p max [] ⟨0, n⟩ = .ok [⟨0, n⟩] := by
  rcases hn with rfl | rfl <;> simp only [pushIndex, List.length_nil, hmax, ↓reduceIte] <;> rfl

theorem pushIndex_next (p : Profile) {max : Nat} {pts : List CIndex} {q i : CIndex} (hq : pts.getLast? = some q)
    (hl : pts.length < max) (ho : q.offset < i.offset) (hn : i.number = q.number + 1) (h8 : i.number < 256) :
    pushIndex p max pts i = .ok (pts ++ [i]) := by
  have e : addU p 8 "Index::is_next: previous.number + 1" (q.number : Int) 1 = .ok (↑q.number + 1) :=
    addU_ok p 8 _ (a := q.number) (b := 1) (by omega)
  simp only [pushIndex, hl, hq, ho, e, hn, ↓reduceIte, Int.natCast_add, Int.cast_ofNat_Int, beq_self_eq_true]

theorem pushTrack_nil {max : Nat} {t : CTrack} (hmax : 0 < max) (ho : t.offset = 0) (hn : t.number = 1) :
    pushTrack max [] t = .ok [t] := by
  simp only [pushTrack, List.length_nil, hmax, List.getLast?_nil, ho, hn, beq_self_eq_true, decide_true, Bool.and_self, ↓reduceIte,
    List.nil_append]

theorem pushTrack_next {max : Nat} {ts : List CTrack} {q t : CTrack} (hq : ts.getLast? = some q) (hl : ts.length < max)
    (h8 : q.number + 1 ≤ 255) (hn : t.number = q.number + 1) (ho : lastIndexOffset q < t.offset) :
    pushTrack max ts t = .ok (ts ++ [t]) := by
  simp only [pushTrack, hl, hq, h8, hn, ho, beq_self_eq_true, decide_true, Bool.and_self, ↓reduceIte]

section
variable {p : Profile} {cdda : Bool} {cat : Option (List Nat)} {done : List CTrack} {w : Wip}

theorem stepTok_track_next {n : Nat} {tr : CTrack} {ts : List CTrack} (hf : finishWip w = .ok tr)
    (hp : pushTrack (if cdda then cueCddaTrackMax else cueNonCddaTrackMax) done tr = .ok ts) :
    stepTok p cdda ⟨cat, done, some w⟩ (.track (some n)) = .ok ⟨cat, ts, some { number := n }⟩ := by
  simp only [stepTok, hf, hp]

theorem finishParse_ok {total : Nat} {tr : CTrack} {ts : List CTrack} (hf : finishWip w = .ok tr)
    (hp : pushTrack (if cdda then cueCddaTrackMax else cueNonCddaTrackMax) done tr = .ok ts) (hlt : lastIndexOffset tr < total) :
    finishParse cdda total ⟨cat, done, some w⟩
      = .ok { cdda, catalog := cat.getD [], leadIn := if cdda then cueLeadIn else 0, tracks := ts, lead := ⟨total, [], false, false⟩ } := by
  simp only [finishParse, hf, hp, Nat.not_le_of_lt hlt, ↓reduceIte]

theorem stepTok_index_first {n o : Nat} {pts : List CIndex} (ho : w.offset = none) (hz : done = [] → o = 0)
    (hpush : pushIndex p (if cdda then cueCddaIndexMax else cueNonCddaIndexMax) w.points ⟨0, n⟩ = .ok pts) :
    stepTok p cdda ⟨cat, done, some w⟩ (.index (some n) (some o)) = .ok ⟨cat, done, some { w with offset := some o, points := pts }⟩ := by
  have : (done.isEmpty && o != 0) = false := by
    cases done with
    | nil => simp [hz rfl]
    | cons _ _ => rfl
  simp only [stepTok, ho, this, hpush, Bool.false_eq_true, ↓reduceIte]

theorem stepTok_index_next {n o base : Nat} {pts : List CIndex} (hb : w.offset = some base) (hge : base ≤ o) (h64 : o < 2 ^ 64)
    (hpush : pushIndex p (if cdda then cueCddaIndexMax else cueNonCddaIndexMax) w.points ⟨o - base, n⟩ = .ok pts) :
    stepTok p cdda ⟨cat, done, some w⟩ (.index (some n) (some o)) = .ok ⟨cat, done, some { w with points := pts }⟩ := by
  simp only [stepTok, hb, Nat.not_lt_of_le hge, subU_ok p 64 _ hge h64, Int.toNat_sub, hpush, decide_false, Bool.and_false,
    Bool.false_eq_true, ↓reduceIte]

variable {s : PState}

theorem runToks_step {t : Tok} {r : List Tok} {s' : PState} (h : stepTok p cdda s t = .ok s') :
    runToks p cdda s (t :: r) = runToks p cdda s' r := by simp only [runToks, h]

theorem runToks_append (p : Profile) (cdda : Bool) (a b : List Tok) (s : PState) :
    runToks p cdda s (a ++ b) = (match runToks p cdda s a with | .error e => .error e | .ok s' => runToks p cdda s' b) := by
  induction a generalizing s with
  | nil => rfl
  | cons t r ih =>
    simp only [List.cons_append, runToks]
    cases stepTok p cdda s t with
    | error e => rfl
    | ok s' => exact ih s'

theorem runToks_append_ok {a b : List Tok} {s' : PState} (h : runToks p cdda s a = .ok s') :
    runToks p cdda s (a ++ b) = runToks p cdda s' b := by rw [runToks_append, h]

/-- the importer from a state on: the remaining lines, then the end of the text -/
def interpFrom (p : Profile) (cdda : Bool) (total : Nat) (s : PState) (toks : List Tok) : Res Cue :=
  match runToks p cdda s toks with
  | .error e => .error e
  | .ok s' => finishParse cdda total s'

theorem interp_eq {total : Nat} {toks : List Tok} : interp p cdda total toks = interpFrom p cdda total {} toks := rfl

theorem interp_other {total : Nat} {l : List Tok} : interp p cdda total (.other :: l) = interp p cdda total l := rfl

theorem interpFrom_append {total : Nat} {a b : List Tok} {s' : PState} (h : runToks p cdda s a = .ok s') :
    interpFrom p cdda total s (a ++ b) = interpFrom p cdda total s' b := by simp only [interpFrom, runToks_append_ok h]

end

structure LIndex where
  number : Nat
  pos : Nat                   -- absolute position in samples, as written (MM:SS:FF × 588)
deriving Repr

structure LTrack where
  number : Nat
  isrc : List Nat             -- [] = no ISRC line
  pre : Bool                  -- FLAGS PRE line
  first : LIndex
  more : List LIndex
deriving Repr

def idxTok (i : LIndex) : Tok := .index (some i.number) (some i.pos)

def trackToks (t : LTrack) : List Tok :=
  [.track (some t.number)] ++ (if t.isrc.isEmpty then [] else [.isrc (some t.isrc)]) ++ (if t.pre then [.flagsPre] else [])
    ++ (idxTok t.first :: t.more.map idxTok)

def rel (base : Nat) (i : LIndex) : CIndex := { offset := i.pos - base, number := i.number }

def wipOf (t : LTrack) : Wip :=
  { number := t.number, offset := some t.first.pos, isrc := t.isrc, preEmph := t.pre, points := rel t.first.pos t.first :: t.more.map (rel t.first.pos) }

def trackOf (t : LTrack) : CTrack :=
  { offset := t.first.pos, number := t.number, isrc := t.isrc, nonAudio := false, preEmph := t.pre,
    points := rel t.first.pos t.first :: t.more.map (rel t.first.pos) }

/-- the later index points of a track: consecutive numbers, strictly increasing positions, room left -/
def idxChainOk (lastPos lastNum count : Nat) : List LIndex → Prop
  | [] => True
  | i :: r => i.number = lastNum + 1 ∧ i.number < 256 ∧ lastPos < i.pos ∧ i.pos < 2 ^ 64 ∧ count < cueCddaIndexMax ∧ idxChainOk i.pos i.number (count + 1) r

theorem getLast_append_one {α} (l : List α) (x : α) : (l ++ [x]).getLast? = some x := List.getLast?_concat

/-- running the remaining INDEX lines of a track -/
theorem idx_run (p : Profile) (cat : Option (List Nat)) (done : List CTrack) (w : Wip) (base : Nat) (more : List LIndex)
    (pts : List CIndex) (last : LIndex) (hlast : pts.getLast? = some (rel base last)) (hbase : base ≤ last.pos)
    (hc : idxChainOk last.pos last.number pts.length more) :
    runToks p true ⟨cat, done, some { w with offset := some base, points := pts }⟩ (more.map idxTok)
      = .ok ⟨cat, done, some { w with offset := some base, points := pts ++ more.map (rel base) }⟩ := by
  induction more generalizing pts last with
  | nil => simp only [List.map_nil, List.append_nil, runToks]
  | cons i r ih =>
    obtain ⟨h1, h2, h3, h4, h5, h6⟩ := hc
    have hb : base ≤ i.pos := Nat.le_trans hbase (Nat.le_of_lt h3)
    have hpush : pushIndex p cueCddaIndexMax pts (rel base i) = .ok (pts ++ [rel base i]) :=
      pushIndex_next p hlast h5 (Nat.sub_lt_sub_right hbase h3) h1 h2
    rw [List.map_cons (f := rel base), List.append_cons]
    exact (runToks_step (stepTok_index_next rfl hb h4 hpush)).trans
      (ih (pts ++ [rel base i]) i (getLast_append_one _ _) hb (by rwa [List.length_append]))

/-- what one track's lines must satisfy on their own -/
def localOk (t : LTrack) : Prop :=
  (t.first.number = 0 ∨ t.first.number = 1) ∧ t.first.pos < 2 ^ 64 ∧ idxChainOk t.first.pos t.first.number 1 t.more
    ∧ (t.first.number = 0 → t.more ≠ [])

/-- the lines of one track, given what its TRACK line does -/
theorem track_body_run (p : Profile) (t : LTrack) {s : PState} {cat : Option (List Nat)} {done : List CTrack}
    (h0 : stepTok p true s (.track (some t.number)) = .ok ⟨cat, done, some { number := t.number }⟩)
    (hfirst : done = [] → t.first.pos = 0) (hl : localOk t) :
    runToks p true s (trackToks t) = .ok ⟨cat, done, some (wipOf t)⟩ := by
  have e1 : runToks p true ⟨cat, done, some { number := t.number }⟩ (if t.isrc.isEmpty then [] else [Tok.isrc (some t.isrc)])
      = .ok ⟨cat, done, some { number := t.number, isrc := t.isrc }⟩ := by
    cases t.isrc <;> rfl
  have e2 : runToks p true ⟨cat, done, some { number := t.number, isrc := t.isrc }⟩ (if t.pre then [Tok.flagsPre] else [])
      = .ok ⟨cat, done, some { number := t.number, isrc := t.isrc, preEmph := t.pre }⟩ := by
    cases t.pre <;> rfl
  have e3 : stepTok p true ⟨cat, done, some { number := t.number, isrc := t.isrc, preEmph := t.pre }⟩ (idxTok t.first)
      = .ok ⟨cat, done, some { number := t.number, offset := some t.first.pos, isrc := t.isrc, preEmph := t.pre,
                               points := [rel t.first.pos t.first] }⟩ := by
    rw [rel, Nat.sub_self]
    exact stepTok_index_first rfl hfirst (pushIndex_nil p (by decide) hl.1)
  simp only [trackToks, List.append_assoc, List.cons_append, List.nil_append]
  rw [runToks_step h0, runToks_append_ok e1, runToks_append_ok e2, runToks_step e3]
  exact idx_run p cat done { number := t.number, isrc := t.isrc, preEmph := t.pre } t.first.pos t.more _ t.first rfl (Nat.le_refl _)
    hl.2.2.1

def lastPosOf (t : LTrack) : Nat := ((t.first :: t.more).getLast (by simp)).pos

theorem lastIndexOffset_trackOf (t : LTrack) : lastIndexOffset (trackOf t) = lastPosOf t - t.first.pos := by
  show (match ((t.first :: t.more).map (rel t.first.pos)).getLast? with | some i => i.offset | none => 0) = _
  rw [List.getLast?_map, List.getLast?_eq_some_getLast (by simp)]
  rfl

theorem lastIndexOffset_lt {t : LTrack} {x : Nat} (h : lastPosOf t < x) : lastIndexOffset (trackOf t) < x := by
  rw [lastIndexOffset_trackOf]; omega

/-- a track's points begin with `INDEX 01`, or with `INDEX 00` and then `INDEX 01` -/
theorem localOk_start {t : LTrack} (hl : localOk t) :
    t.first.number = 1 ∨ t.first.number = 0 ∧ ∃ m r, t.more = m :: r ∧ m.number = 1 ∧ t.first.pos < m.pos ∧ m.pos < 2 ^ 64 := by
  obtain ⟨h0 | h1, -, h3, h4⟩ := hl
  · cases hm : t.more with
    | nil => exact absurd hm (h4 h0)
    | cons m r =>
      rw [hm] at h3
      exact .inr ⟨h0, m, r, rfl, by rw [h3.1, h0], h3.2.2.1, h3.2.2.2.1⟩
  · exact .inl h1

theorem finishWip_wipOf (t : LTrack) (hl : localOk t) : finishWip (wipOf t) = .ok (trackOf t) := by
  rcases localOk_start hl with h | ⟨h, m, r, hm, h1, -⟩
  · simp only [finishWip, wipOf, rel, h, Nat.reduceBEq, Bool.false_eq_true, ↓reduceIte, trackOf]
  · simp only [finishWip, wipOf, rel, h, hm, h1, List.map_cons, beq_self_eq_true, ↓reduceIte, trackOf]

/-- the later tracks: consecutive numbers, each starting after everything before it, room left -/
def restOk (doneLen : Nat) (prev : LTrack) : List LTrack → Prop
  | [] => True
  | t :: r => t.number = prev.number + 1 ∧ prev.number + 1 ≤ 255 ∧ doneLen + 1 < cueCddaTrackMax ∧ lastPosOf prev < t.first.pos
      ∧ localOk t ∧ restOk (doneLen + 1) t r

/-- The lines of all remaining tracks, then the end of the text.  What the loop carries about the track in progress is that
    closing it will succeed: its points are complete (`finishWip_wipOf`) and it can be pushed onto the tracks done. -/
theorem tracks_run (p : Profile) (cat : Option (List Nat)) (total : Nat) (ts : List LTrack) (prev : LTrack) (done : List CTrack)
    (hprev : localOk prev) (hpush : pushTrack cueCddaTrackMax done (trackOf prev) = .ok (done ++ [trackOf prev]))
    (hr : restOk done.length prev ts) (hend : lastPosOf ((prev :: ts).getLast (by simp)) < total) :
    interpFrom p true total ⟨cat, done, some (wipOf prev)⟩ (ts.flatMap trackToks)
      = .ok { cdda := true, catalog := cat.getD [], leadIn := cueLeadIn, tracks := done ++ (prev :: ts).map trackOf,
              lead := ⟨total, [], false, false⟩ } := by
  induction ts generalizing prev done with
  | nil => exact finishParse_ok (finishWip_wipOf prev hprev) hpush (lastIndexOffset_lt hend)
  | cons t r ih =>
    obtain ⟨r1, r2, r3, r4, r5, r6⟩ := hr
    have hpush' : pushTrack cueCddaTrackMax (done ++ [trackOf prev]) (trackOf t) = .ok (done ++ [trackOf prev] ++ [trackOf t]) :=
      pushTrack_next (getLast_append_one _ _) (by simpa using r3) r2 r1 (lastIndexOffset_lt r4)
    rw [List.flatMap_cons, interpFrom_append (track_body_run p t (stepTok_track_next (finishWip_wipOf prev hprev) hpush) (by simp) r5),
      ih t (done ++ [trackOf prev]) r5 hpush' (by simpa using r6) (by simpa using hend), List.append_assoc]
    rfl   -- `[trackOf prev] ++ (t :: r).map trackOf` computes to `(prev :: t :: r).map trackOf`

def catToks : Option (List Nat) → List Tok
  | some d => [Tok.catalog (some d)]
  | none => []

/-- the classified lines of a layout: optional CATALOG, then each track -/
def layoutToks (cat : Option (List Nat)) (ts : List LTrack) : List Tok := catToks cat ++ ts.flatMap trackToks

/-- a well-formed layout for a stream of `total` samples: first track is number 1 at position 0,
    numbers consecutive, every position after the previous one, at most 99 tracks / 100 index points,
    and everything before the end of the stream -/
def LayoutOk (t0 : LTrack) (ts : List LTrack) (total : Nat) : Prop :=
  t0.number = 1 ∧ t0.first.pos = 0 ∧ localOk t0 ∧ restOk 0 t0 ts ∧ lastPosOf ((t0 :: ts).getLast (by simp)) < total

/-- the cue sheet the text describes -/
def cueOf (cat : Option (List Nat)) (t0 : LTrack) (ts : List LTrack) (total : Nat) : Cue :=
  { cdda := true, catalog := cat.getD [], leadIn := cueLeadIn, tracks := (t0 :: ts).map trackOf,
    lead := { offset := total, isrc := [], nonAudio := false, preEmph := false } }

/-- **Import is exact.**  For every well-formed layout (any number of tracks up to 99, any number of
    index points up to 100 per track, with or without pre-gap, ISRC, FLAGS, CATALOG), importing its
    lines yields exactly the described cue sheet: track numbers, index numbers, track offsets at the
    first index, index offsets relative to them, pre-emphasis flags, ISRCs, catalog, the standard
    lead-in and the lead-out at the stream length. -/
theorem import_exact (p : Profile) (cat : Option (List Nat)) (t0 : LTrack) (ts : List LTrack) (total : Nat)
    (h : LayoutOk t0 ts total) : interp p true total (layoutToks cat (t0 :: ts)) = .ok (cueOf cat t0 ts total) := by
  obtain ⟨h1, h2, h3, h4, h5⟩ := h
  have ecat : runToks p true {} (catToks cat) = .ok { catalog := cat } := by
    cases cat <;> rfl
  rw [interp_eq, layoutToks, List.flatMap_cons, interpFrom_append ecat,
    interpFrom_append (track_body_run p t0 rfl (fun _ => h2) h3)]
  exact tracks_run p cat total ts t0 [] h3 (pushTrack_nil (by decide) h2 h1) h4 h5

/-- lines the importer does not know (FILE, REM, TITLE, PERFORMER, blank lines, ...) change nothing -/
theorem other_skipped (p : Profile) (cdda : Bool) (toks : List Tok) (s : PState) :
    runToks p cdda s toks = runToks p cdda s (toks.filter (fun t => match t with | .other => false | _ => true)) := by
  induction toks generalizing s with
  | nil => rfl
  | cons t r ih =>
    cases t with
    | other => exact ih s   -- both sides compute: the step returns `s`, the filter drops the line
    | _ =>
      simp only [runToks, List.filter_cons, ↓reduceIte]
      split
      · rfl
      · exact ih _

/-- absolute position of `INDEX 01` as written in the text -/
def index01Pos (t : LTrack) : Nat :=
  if t.first.number = 0 then (match t.more with | m :: _ => m.pos | [] => t.first.pos) else t.first.pos

theorem start_trackOf (p : Profile) (t : LTrack) (hl : localOk t) :
    accAdd p (trackOf t).offset (startOffset (trackOf t)) = .ok (index01Pos t) := by
  have := hl.2.1
  rw [accAdd_ok]
  rcases localOk_start hl with h | ⟨h, m, r, hm, -, hlt, h64⟩
  · simp only [trackOf, startOffset, rel, index01Pos, h, satAdd, u64Max, Nat.reduceBEq, Bool.false_eq_true, ↓reduceIte,
      Nat.succ_ne_zero, Except.ok.injEq]
    omega
  · simp only [trackOf, startOffset, rel, index01Pos, h, hm, satAdd, u64Max, List.map_cons, beq_self_eq_true, ↓reduceIte, Except.ok.injEq]
    omega

/-- **Track ranges** of an imported sheet run from each track's `INDEX 01` to the next track's, the
    last one to the stream length (release and checked builds agree: see `accAdd_ok`). -/
theorem ranges_of_import (cat : Option (List Nat)) (t0 : LTrack) (ts : List LTrack) (total : Nat)
    (hall : ∀ t ∈ t0 :: ts, localOk t) :
    trackRanges .release (cueOf cat t0 ts total) = .ok (pairUp ((t0 :: ts).map index01Pos ++ [total])) := by
  have := mapRes_map_ok (f := fun t : CTrack => accAdd .release t.offset (startOffset t)) fun t ht => start_trackOf .release t (hall t ht)
  simp only [trackRanges, trackOffsets, cueOf, this]

/-- the conversion written in the documentation: ((MM × 60 + SS) × 75 + FF) × 588, and the export's
    split of an offset into MM:SS:FF inverts it on sector-aligned offsets -/
theorem timestamp_value (offset : Nat) (h : offset % 588 = 0) :
    (offset / 588 % 75 + (offset / 588 / 75 % 60) * 75 + (offset / 588 / 75 / 60) * (75 * 60)) * 588 = offset := by
  omega

/-- the classified lines of `Cuesheet::display`: a FILE line (ignored), then per track a TRACK line
    and one INDEX line per point at its absolute position -/
def exportToks (c : Cue) : List Tok :=
  Tok.other :: c.tracks.flatMap fun t =>
    Tok.track (some t.number) :: t.points.map fun i => Tok.index (some i.number) (some (i.offset + t.offset))

/-- what export keeps of a track: numbers and positions (ISRC, FLAGS and CATALOG are not exported) -/
def strip (t : LTrack) : LTrack := { t with isrc := [], pre := false }

theorem restOk_strip (k : Nat) (prev : LTrack) (ts : List LTrack) (h : restOk k prev ts) : restOk k (strip prev) (ts.map strip) := by
  induction ts generalizing k prev with
  | nil => exact True.intro
  | cons t r ih =>
    -- `restOk` looks only at numbers and positions, which `strip` keeps
    obtain ⟨a, b, c, d, e, f⟩ := h
    exact ⟨a, b, c, d, e, ih _ t f⟩

theorem idxChainOk_lt {lastPos lastNum count : Nat} {l : List LIndex} (h : idxChainOk lastPos lastNum count l) :
    ∀ i ∈ l, lastPos < i.pos := by
  induction l generalizing lastPos lastNum count with
  | nil => nofun
  | cons x r ih => exact List.forall_mem_cons.mpr ⟨h.2.2.1, fun i hi => Nat.lt_trans h.2.2.1 (ih h.2.2.2.2.2 i hi)⟩

theorem localOk_first_le {t : LTrack} (hl : localOk t) : ∀ i ∈ t.first :: t.more, t.first.pos ≤ i.pos :=
  List.forall_mem_cons.mpr ⟨Nat.le_refl _, fun i hi => Nat.le_of_lt (idxChainOk_lt hl.2.2.1 i hi)⟩

theorem exportToks_cueOf (cat : Option (List Nat)) (t0 : LTrack) (ts : List LTrack) (total : Nat)
    (hall : ∀ t ∈ t0 :: ts, localOk t) :
    exportToks (cueOf cat t0 ts total) = Tok.other :: layoutToks none ((t0 :: ts).map strip) := by
  have track : ∀ t ∈ t0 :: ts, (Tok.track (some (trackOf t).number) ::
      (trackOf t).points.map fun i => Tok.index (some i.number) (some (i.offset + (trackOf t).offset))) = trackToks (strip t) := by
    intro t ht
    show _ :: ((t.first :: t.more).map (rel t.first.pos)).map _ = _ :: (t.first :: t.more).map idxTok
    rw [List.map_map]
    -- export writes a point at its absolute position again
    exact congrArg _ (List.map_congr_left fun i hi => by
      simp only [Function.comp, rel, idxTok, trackOf, Nat.sub_add_cancel (localOk_first_le (hall t ht) i hi)])
  simp only [exportToks, cueOf, layoutToks, catToks, List.nil_append, List.flatMap_def, List.map_map]
  exact congrArg (Tok.other :: ·.flatten) (List.map_congr_left track)

/-- **Export, then import** reproduces the same track and index layout: track numbers, track
    offsets, index numbers and index offsets (and therefore every absolute position). -/
theorem export_import_layout (p : Profile) (cat : Option (List Nat)) (t0 : LTrack) (ts : List LTrack) (total : Nat)
    (h : LayoutOk t0 ts total) (hall : ∀ t ∈ t0 :: ts, localOk t) :
    ∃ c', interp p true total (exportToks (cueOf cat t0 ts total)) = .ok c'
      ∧ c'.tracks.map (fun t => (t.number, t.offset, t.points)) = (cueOf cat t0 ts total).tracks.map (fun t => (t.number, t.offset, t.points))
      ∧ c'.lead.offset = total := by
  obtain ⟨h1, h2, h3, h4, h5⟩ := h
  have h5' : lastPosOf (((t0 :: ts).map strip).getLast (by simp)) < total := by rw [List.getLast_map]; exact h5
  have hok : LayoutOk (strip t0) (ts.map strip) total := ⟨h1, h2, h3, restOk_strip 0 t0 ts h4, h5'⟩
  refine ⟨cueOf none (strip t0) (ts.map strip) total, ?_, ?_, rfl⟩
  · rw [exportToks_cueOf cat t0 ts total hall, interp_other]
    exact import_exact p none (strip t0) (ts.map strip) total hok
  · -- `trackOf (strip t)` and `trackOf t` differ only in the ISRC and the pre-emphasis flag
    simp only [cueOf, ← List.map_cons (f := strip), List.map_map]
    rfl

/-! ### the hypotheses are satisfiable -/

def demoT1 : LTrack := { number := 1, isrc := [], pre := false, first := ⟨1, 0⟩, more := [] }
def demoT2 : LTrack := { number := 2, isrc := [65, 65, 54, 81, 55, 50, 48, 48, 48, 48, 52, 55], pre := true,
                         first := ⟨0, 7836276⟩, more := [⟨1, 7939176⟩, ⟨2, 8000000 * 588 / 588⟩] }

example : LayoutOk demoT1 [demoT2] 39731748 := by
  refine ⟨rfl, rfl, ?_, ?_, ?_⟩
  · exact ⟨Or.inr rfl, by decide, trivial, by intro h; cases h⟩
  · refine ⟨rfl, by decide, by decide, by decide, ?_, trivial⟩
    refine ⟨Or.inl rfl, by decide, ?_, by intro _ h; cases h⟩
    exact ⟨rfl, by decide, by decide, by decide, by decide, rfl, by decide, by decide, by decide, by decide, trivial⟩
  · decide

end Flac.C20
