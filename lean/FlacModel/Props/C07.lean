/-
  Props/C07.lean — C07: readers deliver the stream exactly once, in order, however it is consumed.
  State machines: `Model/Readers.lean` (`Rd` = byte/sample/iterator readers over their unit type,
  `ChanRd` = per-channel reader).  `Good` ties the decoder's `current_sample` to the frames still unread, so that
  `read_frame` never fails (`readFrame_good`; C06 and C07 use its accounting through this alone, C07b compares the
  accounting itself with the byte-level loop).  Each reader has a list of what it has still to deliver; one operation
  hands out a prefix of that list and keeps the rest (`step_exact`, `chanStep_exact`), and the theorems about operation
  histories are the iteration of that.
-/
import FlacModel.Model.Readers
import FlacModel.Proofs.ListAux

namespace Flac.C07
open Flac

/-- only the last frame may be 14 samples or shorter: a shorter block that does not complete the declared total is what
    `read_frame` rejects as `ShortBlock` -/
def nonFinalLong : List FrameInfo → Prop
  | [] => True
  | [_] => True
  | f :: g :: r => 14 < f.len ∧ nonFinalLong (g :: r)

def lens (fs : List FrameInfo) : Nat := (fs.map (·.len)).sum

/-- the invariant tying the decoder's `current_sample` to the frames still to be read, on a valid stream: every frame is
    non-empty and, where STREAMINFO declares a total, `current_sample` and the unread frames add up to it and only the
    last frame may be 14 samples or shorter -/
def Good (s : Stream) (d : Dec) : Prop :=
  (∀ f ∈ d.rest, 0 < f.len) ∧
  match s.total with
  | none => True
  | some t => d.cur + lens d.rest = t ∧ nonFinalLong d.rest

theorem nonFinalLong_tail (f : FrameInfo) (fs : List FrameInfo) (h : nonFinalLong (f :: fs)) : nonFinalLong fs := by
  cases fs with
  | nil => exact True.intro
  | cons g r => exact h.2

theorem nonFinalLong_suffix (pre post : List FrameInfo) (h : nonFinalLong (pre ++ post)) : nonFinalLong post := by
  induction pre with
  | nil => exact h
  | cons f fs ih => exact ih (nonFinalLong_tail f (fs ++ post) h)

theorem lens_cons (f : FrameInfo) (fs : List FrameInfo) : lens (f :: fs) = f.len + lens fs := rfl

theorem lens_append (a b : List FrameInfo) : lens (a ++ b) = lens a + lens b := by
  simp only [lens, List.map_append, List.sum_append]

theorem length_flatMap_lens (enc : FrameInfo → List α) (u : Nat) (fs : List FrameInfo)
    (h : ∀ f ∈ fs, (enc f).length = f.len * u) : (fs.flatMap enc).length = lens fs * u := by
  induction fs with
  | nil => exact (Nat.zero_mul u).symm
  | cons f fs ih =>
    rw [List.flatMap_cons, List.length_append, h f (List.mem_cons_self ..), ih fun g hg => h g (List.mem_cons_of_mem f hg), lens_cons,
      Nat.add_mul]

theorem Good.suffix {s : Stream} {pre post : List FrameInfo} {cur : Nat} (h : Good s { rest := pre ++ post, cur := cur }) :
    Good s { rest := post, cur := cur + lens pre } := by
  obtain ⟨hpos, htot⟩ := h
  refine ⟨fun f hf => hpos f (List.mem_append_right pre hf), ?_⟩
  cases ht : s.total with
  | none => exact True.intro
  | some t =>
    rw [ht] at htot
    dsimp only at htot ⊢
    rw [lens_append] at htot
    exact ⟨(Nat.add_assoc ..).trans htot.1, nonFinalLong_suffix pre post htot.2⟩

/-- on a valid stream `read_frame` yields exactly the next frame, or end-of-stream when none is
    left, never an error, and keeps the invariant -/
theorem readFrame_good (s : Stream) (d : Dec) (h : Good s d) :
    (d.rest = [] ∧ d.readFrame s = .ok (none, d)) ∨
    (∃ f fs, d.rest = f :: fs ∧ d.readFrame s = .ok (some f, { rest := fs, cur := d.cur + f.len })
      ∧ Good s { rest := fs, cur := d.cur + f.len }) := by
  obtain ⟨rest, cur⟩ := d
  have htot := h.2
  unfold Dec.readFrame
  cases ht : s.total with
  | none =>
    cases rest with
    | nil => exact .inl ⟨rfl, rfl⟩
    -- `h.suffix` speaks of `cur + lens [f]`, which unfolds to `cur + (f.len + 0)` and so is `cur + f.len` by computation
    | cons f fs => exact .inr ⟨f, fs, rfl, rfl, h.suffix (pre := [f])⟩
  | some t =>
    rw [ht] at htot
    obtain ⟨rfl, hlong⟩ := htot
    cases rest with
    | nil => exact .inl ⟨rfl, if_pos (Nat.le_refl cur)⟩
    | cons f fs =>
      refine .inr ⟨f, fs, rfl, ?_, h.suffix (pre := [f])⟩
      dsimp only
      have hf : 0 < f.len := h.1 f (List.mem_cons_self ..)
      -- only the last frame may be short
      have hlast : f.len = f.len + lens fs ∨ 14 < f.len := by
        cases fs with
        | nil => exact .inl rfl
        | cons g r => exact .inr hlong.1
      rw [lens_cons, Nat.add_sub_cancel_left, if_neg (by omega), if_neg (by simp only [Bool.and_eq_true, decide_eq_true_eq]; omega),
        if_pos (by simpa using hlast)]

/-- what a reader has still to deliver: its buffer followed by the encoding of the unread frames -/
def remaining (enc : FrameInfo → List α) (r : Rd α) : List α := r.buf ++ r.dec.rest.flatMap enc

inductive Op | read (n : Nat) | fill | consume (k : Nat)

/-- one operation: the data that left the reader for good, and the new state.
    (`fill` only exposes the buffer; data leaves through `consume`, clamped to what is available) -/
def step (s : Stream) (enc : FrameInfo → List α) (r : Rd α) : Op → Res (List α × Rd α)
  | .read n => r.read s enc n
  | .fill => match r.fill s enc with
             | .error e => .error e
             | .ok (_, r') => .ok ([], r')
  | .consume k => .ok (r.buf.take k, r.consume k)

/-- refilling on a good state never fails, keeps the state good and leaves what remains to be delivered as it is.  Where every
    unread frame encodes to at least one unit this stays so, and the buffer is then empty after a refill only if nothing
    remains: by this the skip loop and a reader's caller recognise the end of the stream. -/
theorem refill_good (s : Stream) (enc : FrameInfo → List α) (r : Rd α) (h : Good s r.dec) :
    ∃ r', r.refill s enc = .ok r' ∧ Good s r'.dec ∧ remaining enc r' = remaining enc r
      ∧ ((∀ f ∈ r.dec.rest, enc f ≠ []) → (∀ f ∈ r'.dec.rest, enc f ≠ []) ∧ (r'.buf = [] → remaining enc r = [])) := by
  obtain ⟨⟨rest, cur⟩, buf⟩ := r
  unfold Rd.refill
  cases buf with
  | cons x xs => exact ⟨_, rfl, h, rfl, fun henc => ⟨henc, fun he => (List.cons_ne_nil _ _ he).elim⟩⟩
  | nil =>
    rcases readFrame_good s _ h with ⟨hr, hrf⟩ | ⟨f, fs, hr, hrf, hg⟩
    · obtain rfl : rest = [] := hr
      exact ⟨⟨_, []⟩, by rw [hrf]; rfl, h, rfl, fun henc => ⟨henc, fun _ => rfl⟩⟩
    · obtain rfl : rest = f :: fs := hr
      exact ⟨⟨_, enc f⟩, by rw [hrf]; rfl, hg, by simp [remaining], fun henc =>
        ⟨fun g hg' => henc g (List.mem_cons_of_mem f hg'), fun he => absurd he (henc f (List.mem_cons_self ..))⟩⟩

theorem remaining_consume (enc : FrameInfo → List α) (r : Rd α) (k : Nat) (hk : k ≤ r.buf.length) :
    remaining enc (r.consume k) = (remaining enc r).drop k :=
  (List.drop_append_of_le_length hk).symm

/-- **one step**: never an error on a valid stream; output followed by what remains afterwards is
    exactly what remained before -/
theorem step_exact (s : Stream) (enc : FrameInfo → List α) (r : Rd α) (op : Op) (h : Good s r.dec) :
    ∃ out r', step s enc r op = .ok (out, r') ∧ Good s r'.dec ∧ out ++ remaining enc r' = remaining enc r := by
  cases op with
  | read n =>
    obtain ⟨r1, h1, hg, hrem, _⟩ := refill_good s enc r h
    refine ⟨r1.buf.take n, { r1 with buf := r1.buf.drop n }, by simp [step, Rd.read, h1], hg, ?_⟩
    rw [← hrem]; simp [remaining, ← List.append_assoc]
  | fill =>
    obtain ⟨r1, h1, hg, hrem, _⟩ := refill_good s enc r h
    exact ⟨[], r1, by simp [step, Rd.fill, h1], hg, by simpa using hrem⟩
  | consume k =>
    exact ⟨r.buf.take k, r.consume k, rfl, h, by simp [remaining, Rd.consume, ← List.append_assoc]⟩

def run (s : Stream) (enc : FrameInfo → List α) : Rd α → List Op → Res (List α × Rd α)
  | r, [] => .ok ([], r)
  | r, op :: ops =>
    match step s enc r op with
    | .error e => .error e
    | .ok (o1, r1) =>
      match run s enc r1 ops with
      | .error e => .error e
      | .ok (o2, r2) => .ok (o1 ++ o2, r2)

/-- **reader_exactly_once** — for EVERY operation history on a valid stream: no error, and the
    concatenation of everything delivered, followed by what the reader still holds, is the whole
    decoded stream: nothing lost, nothing duplicated, nothing reordered. -/
theorem reader_exactly_once (s : Stream) (enc : FrameInfo → List α) (r : Rd α) (ops : List Op) (h : Good s r.dec) :
    ∃ out r', run s enc r ops = .ok (out, r') ∧ Good s r'.dec ∧ out ++ remaining enc r' = remaining enc r := by
  induction ops generalizing r with
  | nil => exact ⟨[], r, rfl, h, by simp⟩
  | cons op ops ih =>
    obtain ⟨o1, r1, h1, hg1, he1⟩ := step_exact s enc r op h
    obtain ⟨o2, r2, h2, hg2, he2⟩ := ih r1 hg1
    refine ⟨o1 ++ o2, r2, by simp [run, h1, h2], hg2, ?_⟩
    rw [List.append_assoc, he2, he1]

/-- corollary for a freshly opened reader: delivered data is a prefix of the full stream -/
theorem fresh_reader_prefix (s : Stream) (enc : FrameInfo → List α) (ops : List Op)
    (h : Good s { rest := s.frames, cur := 0 }) :
    ∃ out r', run s enc { dec := { rest := s.frames, cur := 0 }, buf := [] } ops = .ok (out, r')
      ∧ out ++ remaining enc r' = s.frames.flatMap enc := by
  obtain ⟨out, r', h1, _, h3⟩ := reader_exactly_once s enc { dec := { rest := s.frames, cur := 0 }, buf := [] } ops h
  exact ⟨out, r', h1, by simpa [remaining] using h3⟩

/-- **eos_idempotent**: once nothing remains, every read and fill returns the end-of-stream value
    (empty) again and again, and nothing remains afterwards either -/
theorem eos_idempotent (s : Stream) (enc : FrameInfo → List α) (r : Rd α) (h : Good s r.dec)
    (hempty : remaining enc r = []) (n : Nat) :
    ∃ r', r.read s enc n = .ok ([], r') ∧ (∃ r'', r.fill s enc = .ok ([], r'')) ∧ remaining enc r' = [] ∧ Good s r'.dec := by
  obtain ⟨r1, h1, hg, hrem, _⟩ := refill_good s enc r h
  obtain ⟨hb, hrest⟩ := List.append_eq_nil_iff.mp (hrem.trans hempty)
  exact ⟨{ r1 with buf := r1.buf.drop n }, by simp [Rd.read, h1, hb], ⟨r1, by simp [Rd.fill, h1, hb]⟩,
    by simpa [remaining, hb] using hrest, hg⟩

/-- conversely, end-of-stream is only signalled when nothing remains (every frame encodes to at
    least one unit): an empty `read(n>0)` means the whole stream has been delivered -/
theorem eos_only_at_end (s : Stream) (enc : FrameInfo → List α) (r : Rd α) (h : Good s r.dec)
    (henc : ∀ f ∈ r.dec.rest, enc f ≠ []) (n : Nat) (hn : 0 < n) (r' : Rd α)
    (hread : r.read s enc n = .ok ([], r')) : remaining enc r = [] := by
  obtain ⟨r1, h1, _, _, hemp⟩ := refill_good s enc r h
  simp only [Rd.read, h1, Except.ok.injEq, Prod.mk.injEq] at hread
  exact (hemp henc).2 ((List.take_eq_nil_iff.mp hread.1).resolve_left (Nat.ne_of_gt hn))

/-- **byte_eq_serialised_samples**: the byte reader's stream is the sample reader's stream
    serialised at `ceil(depth/8)` bytes per sample in the chosen byte order -/
theorem byte_eq_serialised_samples (bps : Nat) (be : Bool) (fs : List FrameInfo) :
    fs.flatMap (frameBytes bps be) = (fs.flatMap frameSamples).flatMap (sampleBytes (bytesPerSample bps) be) :=
  -- `frameBytes bps be f` is `(frameSamples f).flatMap (sampleBytes (bytesPerSample bps) be)` by definition
  List.flatMap_assoc.symm

/-- **chan_eos_idempotent**: once the channel reader has signalled the end (no frames left, nothing
    buffered) every further `fill_buf` returns empty slices again — the previous frame is never
    handed out a second time -/
theorem chan_eos_idempotent (s : Stream) (r : ChanRd) (h : Good s r.dec) (hrest : r.dec.rest = [])
    (hc : ¬ r.consumed < r.pcmFrames) :
    ∃ r', r.fill s = .ok (List.replicate s.ch [], r') ∧ r'.dec.rest = [] ∧ ¬ r'.consumed < r'.pcmFrames ∧ Good s r'.dec := by
  rcases readFrame_good s r.dec h with ⟨_, hrf⟩ | ⟨f, fs, hr, _, _⟩
  · refine ⟨{ dec := r.dec, frame := [], consumed := 0 }, by simp [ChanRd.fill, hc, hrf], hrest, by simp [ChanRd.pcmFrames], h⟩
  · rw [hrest] at hr; cases hr

/-- frames are rectangular: every channel has the frame's length -/
def Rect (f : FrameInfo) : Prop := ∀ c ∈ f.chans, c.length = f.len

/-- what channel `c` has still to deliver: the unconsumed part of the current frame, then the unread frames -/
def chanRemaining (c : Nat) (r : ChanRd) : List Int :=
  (r.frame.getD c []).drop r.consumed ++ r.dec.rest.flatMap (fun f => f.chans.getD c [])

inductive ChanOp | fill | consume (k : Nat)

/-- one operation; data leaves the reader through `consume` (what channel `c` loses is returned) -/
def chanStep (s : Stream) (c : Nat) (r : ChanRd) : ChanOp → Res (List Int × ChanRd)
  | .fill => match r.fill s with
             | .error e => .error e
             | .ok (_, r') => .ok ([], r')
  | .consume k => .ok (((r.frame.getD c []).drop r.consumed).take k, r.consume k)

/-- the current frame is rectangular (all channels as long as the first); with frame `f` in hand, `FrameRect ⟨d, f.chans, k⟩`
    and `Rect f` unfold to the same statement, and the proofs pass one for the other -/
def FrameRect (r : ChanRd) : Prop := ∀ ch ∈ r.frame, ch.length = r.pcmFrames

def ChanGood (s : Stream) (r : ChanRd) : Prop := Good s r.dec ∧ FrameRect r ∧ ∀ f ∈ r.dec.rest, Rect f

/-- `fill_buf` on a good state: the frame in hand is not used up and stays; or it is, and either no frame is left or the next
    one takes its place -/
theorem chanFill_cases (s : Stream) (r : ChanRd) (h : ChanGood s r) :
    (r.consumed < r.pcmFrames ∧ r.fill s = .ok (r.frame.map (·.drop r.consumed), r))
    ∨ ¬ r.consumed < r.pcmFrames ∧
      ((r.dec.rest = [] ∧ r.fill s = .ok (List.replicate s.ch [], ⟨r.dec, [], 0⟩) ∧ ChanGood s ⟨r.dec, [], 0⟩)
        ∨ ∃ f fs, r.dec.rest = f :: fs ∧ r.fill s = .ok (f.chans, ⟨⟨fs, r.dec.cur + f.len⟩, f.chans, 0⟩)
            ∧ ChanGood s ⟨⟨fs, r.dec.cur + f.len⟩, f.chans, 0⟩) := by
  obtain ⟨hg, hr, hrest⟩ := h
  unfold ChanRd.fill
  by_cases hc : r.consumed < r.pcmFrames
  · exact .inl ⟨hc, if_pos hc⟩
  · rw [if_neg hc]
    rcases readFrame_good s r.dec hg with ⟨hr0, hrf⟩ | ⟨f, fs, hr0, hrf, hg'⟩
    · exact .inr ⟨hc, .inl ⟨hr0, by rw [hrf], hg, nofun, hrest⟩⟩
    · exact .inr ⟨hc, .inr ⟨f, fs, hr0, by rw [hrf], hg', hrest f (by simp [hr0]), fun g hg' => hrest g (by simp [hr0, hg'])⟩⟩

theorem chanFill_good (s : Stream) (r : ChanRd) (h : ChanGood s r) :
    ∃ b r', r.fill s = .ok (b, r') ∧ ChanGood s r' ∧ ∀ c, chanRemaining c r' = chanRemaining c r := by
  rcases chanFill_cases s r h with ⟨_, hfill⟩ | ⟨hc, hcase⟩
  · exact ⟨_, r, hfill, h, fun _ => rfl⟩
  · -- the frame is used up in every channel, absent ones included: only the unread frames remain
    have hdone (c) : chanRemaining c r = r.dec.rest.flatMap fun f => f.chans.getD c [] := by
      unfold chanRemaining
      rw [List.drop_eq_nil_of_le (Nat.le_trans (getD_length_le h.2.1 c) (Nat.le_of_not_lt hc)), List.nil_append]
    rcases hcase with ⟨_, hfill, hg'⟩ | ⟨f, fs, hr0, hfill, hg'⟩
    · exact ⟨_, _, hfill, hg', fun c => by rw [hdone c]; rfl⟩
    · exact ⟨_, _, hfill, hg', fun c => by rw [hdone c, hr0]; rfl⟩

/-- **one step of the channel reader**: never an error on a valid stream; for EVERY channel, what left the reader
    followed by what remains is what remained before -/
theorem chanStep_exact (s : Stream) (c : Nat) (r : ChanRd) (op : ChanOp) (h : ChanGood s r) :
    ∃ out r', chanStep s c r op = .ok (out, r') ∧ ChanGood s r' ∧ out ++ chanRemaining c r' = chanRemaining c r := by
  cases op with
  | fill =>
    obtain ⟨b, r1, h1, hg, hrem⟩ := chanFill_good s r h
    exact ⟨[], r1, by simp [chanStep, h1], hg, hrem c⟩
  | consume k =>
    refine ⟨_, r.consume k, rfl, h, ?_⟩
    simp only [chanRemaining, ChanRd.consume, ← List.append_assoc, ← List.drop_drop, List.take_append_drop]

def chanRun (s : Stream) (c : Nat) : ChanRd → List ChanOp → Res (List Int × ChanRd)
  | r, [] => .ok ([], r)
  | r, op :: ops =>
    match chanStep s c r op with
    | .error e => .error e
    | .ok (o1, r1) =>
      match chanRun s c r1 ops with
      | .error e => .error e
      | .ok (o2, r2) => .ok (o1 ++ o2, r2)

/-- **chan_reader_exactly_once** - for EVERY history of `fill_buf`/`consume` calls on a valid stream of rectangular
    frames and EVERY channel: no error, and the samples of that channel that left the reader, followed by what it still
    holds, are the channel's whole decoded stream (the de-interleaved samples): nothing lost, duplicated or reordered. -/
theorem chan_reader_exactly_once (s : Stream) (c : Nat) (r : ChanRd) (ops : List ChanOp) (h : Good s r.dec) (hr : FrameRect r)
    (hrest : ∀ f ∈ r.dec.rest, Rect f) :
    ∃ out r', chanRun s c r ops = .ok (out, r') ∧ out ++ chanRemaining c r' = chanRemaining c r := by
  induction ops generalizing r with
  | nil => exact ⟨[], r, rfl, rfl⟩
  | cons op ops ih =>
    obtain ⟨o1, r1, h1, ⟨hg1, hr1, hrest1⟩, he1⟩ := chanStep_exact s c r op ⟨h, hr, hrest⟩
    obtain ⟨o2, r2, h2, he2⟩ := ih r1 hg1 hr1 hrest1
    refine ⟨o1 ++ o2, r2, by simp [chanRun, h1, h2], ?_⟩
    rw [List.append_assoc, he2, he1]

/-- a freshly opened channel reader: what channel `c` delivers is a prefix of that channel of the whole stream -/
theorem fresh_chan_reader_prefix (s : Stream) (c : Nat) (ops : List ChanOp)
    (h : Good s { rest := s.frames, cur := 0 }) (hrect : ∀ f ∈ s.frames, Rect f) :
    ∃ out r', chanRun s c { dec := { rest := s.frames, cur := 0 }, frame := [], consumed := 0 } ops = .ok (out, r')
      ∧ out ++ chanRemaining c r' = s.frames.flatMap (fun f => f.chans.getD c []) := by
  obtain ⟨out, r', h1, h2⟩ := chan_reader_exactly_once s c { dec := { rest := s.frames, cur := 0 }, frame := [], consumed := 0 } ops h
    (by intro ch hch; simp at hch) hrect
  exact ⟨out, r', h1, by simpa [chanRemaining] using h2⟩

/-- non-vacuity: a two-frame stream with a declared total of 20 = 16 + 4 is `Good` -/
example : Good { ch := 1, bps := 16, total := some 20, table := none,
                 frames := [{ off := 0, chans := [List.replicate 16 1] }, { off := 30, chans := [List.replicate 4 2] }] }
               { rest := [{ off := 0, chans := [List.replicate 16 1] }, { off := 30, chans := [List.replicate 4 2] }], cur := 0 } := by
  refine ⟨?_, ?_⟩
  · intro f hf; simp at hf; rcases hf with rfl | rfl <;> decide
  · simp only [lens, nonFinalLong]; refine ⟨by decide, ?_, trivial⟩; decide

end Flac.C07
