/-
  Props/C18.lean — C18: parallel encoding is schedule-independent.  A scheduler step leaves unchanged what every task will finally
  compute (`step_final`: tasks own disjoint state), so any schedule that runs all tasks to completion ends where serial execution does.
-/
import FlacModel.Model.Par
import FlacModel.Gen.KernelsEnc
import FlacModel.Gen.Par

namespace Flac.C18
open Flac.Par

variable {ι : Type} [DecidableEq ι] {σ : Type}

theorem step_final (p : Pool ι σ) (i j : ι) : (p.step i).final j = p.final j := by
  unfold Pool.step
  cases h : p.prog i with
  | nil => rfl
  | cons f r =>
    simp only [Pool.final, upd]
    by_cases hj : j = i
    · -- the task's own step: its remaining steps `r` from `f s` are all of `f :: r` from `s`
      rw [if_pos hj, if_pos hj, hj, h, List.foldl_cons]
    · -- another task's step touches neither its state nor its steps
      rw [if_neg hj, if_neg hj]

theorem run_final (p : Pool ι σ) (sched : List ι) (j : ι) : (p.run sched).final j = p.final j := by
  induction sched generalizing p with
  | nil => rfl
  | cons i r ih =>
    simp only [Pool.run, List.foldl_cons]
    exact (ih (p.step i)).trans (step_final p i j)

/-- **Schedule independence.**  Under EVERY interleaving of the tasks' steps that runs them all to
    completion, every task ends in exactly the state serial execution gives it. -/
theorem schedule_independent (p : Pool ι σ) (sched : List ι) (hdone : (p.run sched).done) (j : ι) :
    (p.run sched).state j = p.serial j := by
  have := run_final p sched j
  simp only [Pool.final, hdone j, List.foldl_nil] at this
  exact this

/-- two complete schedules agree on every result, hence on anything computed from the results
    (the candidate chosen by written bits, the bytes appended to the file) -/
theorem outputs_agree {β : Type} (p : Pool ι σ) (s1 s2 : List ι) (h1 : (p.run s1).done) (h2 : (p.run s2).done)
    (select : (ι → σ) → β) : select (p.run s1).state = select (p.run s2).state :=
  congrArg select (funext fun j => (schedule_independent p s1 h1 j).trans (schedule_independent p s2 h2 j).symm)

/-- the choice between the FIXED and the LPC candidate is a function of the two bit counts alone
    (regenerated from `encode.rs`): ties cannot be broken by timing -/
theorem pick_is_function (a b : Nat) : ∀ x y, x = a → y = b → Gen.encPickCandidate x y = Gen.encPickCandidate a b := by
  intro x y hx hy; subst hx hy; rfl

/-- the premise of the model, regenerated from the source: encode.rs has no Mutex, atomic, RefCell,
    static mut or unsafe through which two parallel closures could share mutable state -/
theorem no_shared_mutable_state : Gen.encNoSharedMutableState = true := rfl

/-- non-vacuity: two tasks, two different complete schedules, same results -/
example :
    let p : Pool Bool Nat := { state := fun _ => 1, prog := fun b => if b then [(· + 2), (· * 3)] else [(· * 5)] }
    ((p.run [true, false, true]).state true, (p.run [true, false, true]).state false)
      = ((p.run [false, true, true]).state true, (p.run [false, true, true]).state false) := by decide

end Flac.C18
