/-
  Props/C19.lean — C19: encoding never expands audio beyond verbatim size plus a fixed overhead.
  The bound follows from the fallback comparison extracted from `encode_subframe`
  (`Gen.encKeepBest`, `Gen.encPickCandidate`), not from any heuristic: it holds for EVERY candidate
  size, i.e. whatever the LPC analysis, the Rice estimate or the partition search produced.
-/
import FlacModel.Proofs.Bits
import FlacModel.Gen.KernelsEnc
import FlacModel.Gen.Resid
import FlacModel.Proofs.ListAux

namespace Flac.C19
open Flac Gen

/-- bits of the subframe `encode_subframe` returns, given the bit count of the best candidate
    (`none` = every candidate failed) and the size of the VERBATIM subframe
    (`hdr` header bits + `n` samples of `bps` effective bits) -/
def chosenBits (best : Option Nat) (hdr n bps : Nat) : Nat :=
  match best with
  | none => hdr + n * bps
  | some b => if encKeepBest b (encVerbatimLen n bps) then b else hdr + n * bps

theorem chosenBits_some (b hdr n bps : Nat) : chosenBits (some b) hdr n bps = if b < n * bps then b else hdr + n * bps := by
  by_cases h : b < n * bps <;> simp [chosenBits, encKeepBest, encVerbatimLen, h]

/-- what the fallback guarantees: a candidate is only kept if it is below the VERBATIM payload -/
theorem chosenBits_some_le (b hdr n bps : Nat) : chosenBits (some b) hdr n bps ≤ min (b + hdr) (hdr + n * bps) := by
  rw [chosenBits_some]; split <;> omega

/-- **subframe_bits_le_verbatim** — for every candidate whatsoever -/
theorem subframe_bits_le_verbatim (best : Option Nat) (hdr n bps : Nat) :
    chosenBits best hdr n bps ≤ hdr + n * bps := by
  cases best with
  | none => exact Nat.le_refl _
  | some b => exact Nat.le_trans (chosenBits_some_le ..) (Nat.min_le_right ..)

/-- when FIXED and LPC both succeed the smaller recording is taken, so the result is never larger
    than the FIXED candidate — the step behind the constant-block clause: a block of equal samples
    has an all-zero order-1 FIXED residual whose recording is a few dozen bits, whatever LPC does -/
theorem pick_le_fixed (fixedBits lpcBits : Nat) : encPickCandidate fixedBits lpcBits ≤ fixedBits := by
  unfold encPickCandidate; split <;> omega

/-- constant-block clause, given the size `fixedBits` of the FIXED candidate (bounded for an all-zero residual in
    `fixed_zero_candidate_bits`; that a block of equal samples has one is C19b and C19c) -/
theorem constant_block_small_partial (fixedBits lpcBits hdr n bps : Nat) :
    chosenBits (some (encPickCandidate fixedBits lpcBits)) hdr n bps ≤ fixedBits + hdr :=
  Nat.le_trans (chosenBits_some_le ..)
    (Nat.le_trans (Nat.min_le_left ..) (Nat.add_le_add_right (pick_le_fixed fixedBits lpcBits) hdr))

/-! ### the constant-block clause: what a block of equal samples costs does not depend on its length

Facts regenerated from the source (`Gen/Resid.lean`): a partition whose residuals are all zero gets the zero-width escape
header (9 or 10 bits, no residual bits); an all-zero channel is written as a CONSTANT subframe.  No candidate has more than
`encMaxPartitions` (`Gen/KernelsEnc.lean`) partitions: `C15.candidates_fit`.  A block of equal non-zero samples has an all-zero FIXED residual from order 1 on, so
the FIXED candidate the encoder records is a subframe of the shape bounded below, whatever orders it picked; and the
subframe finally written is never larger than the FIXED candidate (`pick_le_fixed`, `subframe_bits_le_verbatim`). -/

theorem zero_partition_is_constant : encZeroPartitionIsConstant = true := rfl
theorem all_zero_is_constant_subframe : encAllZeroIsConstantSubframe = true := rfl

/-- every partition is the zero-width escape -/
def zeroParts (r : Residual) : Prop := ∀ pt ∈ r.parts, ∃ n, pt = Partition.zero n

/-- a zero-width partition is written as the `pbits`-bit escape code and a 5-bit width of 0 -/
theorem zero_parts_bits (pbits : Nat) (parts : List Partition) (hz : ∀ pt ∈ parts, ∃ n, pt = Partition.zero n) :
    (parts.flatMap (writePartition pbits)).length = (pbits + 5) * parts.length :=
  length_flatMap_const (pbits + 5) _ parts fun pt h => by
    obtain ⟨n, rfl⟩ := hz pt h; rw [writePartition, List.length_append, natToBits_length, natToBits_length]

/-- a residual block of at most `n` zero-width partitions: 6 bits of coding method and order, at most 10 bits per partition -/
theorem zero_residual_bits (r : Residual) (hm : r.method ≤ 1) (hz : zeroParts r) (n : Nat) (hn : r.parts.length ≤ n) :
    (writeResidual r).length ≤ 6 + n * 10 := by
  have : (4 + r.method + 5) * r.parts.length ≤ 10 * n := Nat.mul_le_mul (by omega) hn
  simp only [writeResidual, List.length_append, natToBits_length, zero_parts_bits _ _ hz]
  omega

theorem warm_bits (d : Nat) (warm : List Int) : (warm.flatMap (intToBits d)).length = warm.length * d := by
  rw [length_flatMap_const d _ warm fun x _ => intToBits_length d x, Nat.mul_comm]

/-- **the FIXED candidate of a block with all-zero residual**: at most 8 + wasted + 4 warm-up samples + 646 bits,
    whatever the block length -/
theorem fixed_zero_candidate_bits (bps w o : Nat) (warm : List Int) (res : Residual) (ho : o ≤ 4) (hwl : warm.length = o)
    (hm : res.method ≤ 1) (hz : zeroParts res) (hn : res.parts.length ≤ encMaxPartitions) :
    (writeSubframe bps { wasted := w, body := .fixed o warm res }).length ≤ 8 + w + 4 * (bps - w) + (6 + encMaxPartitions * 10) := by
  have h1 := zero_residual_bits res hm hz _ hn
  simp only [writeSubframe, List.length_append, writeSubHeader_length, warm_bits, hwl]
  have : o * (bps - w) ≤ 4 * (bps - w) := Nat.mul_le_mul_right _ ho
  omega

/-- **constant_block_small**: with the FIXED candidate of a constant block bounded as above, the subframe written for the
    channel costs at most that bound plus the VERBATIM header allowance - for every block length `n`, every LPC
    candidate, every depth -/
theorem constant_block_small (bps w o : Nat) (warm : List Int) (res : Residual) (ho : o ≤ 4) (hwl : warm.length = o)
    (hm : res.method ≤ 1) (hz : zeroParts res) (hn : res.parts.length ≤ encMaxPartitions) (lpcBits hdr n : Nat) :
    chosenBits (some (encPickCandidate (writeSubframe bps { wasted := w, body := .fixed o warm res }).length lpcBits)) hdr n bps
      ≤ 8 + w + 4 * (bps - w) + (6 + encMaxPartitions * 10) + hdr :=
  Nat.le_trans (constant_block_small_partial _ lpcBits hdr n bps)
    (Nat.add_le_add_right (fixed_zero_candidate_bits bps w o warm res ho hwl hm hz hn) hdr)

/-- a frame header never exceeds 16 bytes: 15+1+4+4+4+3+1 fixed bits, a coded number of at most
    7 bytes, at most 16 bits of block size, at most 16 bits of sample rate, and the CRC-8 -/
theorem header_bits_le (h : Header) (hn : h.numberBytes ≤ 7) : (writeHeaderFields h).length ≤ 120 := by
  obtain ⟨a, b, ha, hb, e⟩ := writeHeaderFields_length h
  have := writeNumber_length_le h.number h.numberBytes hn
  omega

/-- **frame_bytes_bound**: with every subframe bounded by its verbatim size, a frame is at most
    16 header bytes + the verbatim bits rounded up + 2 footer bytes -/
theorem frame_bytes_bound (hdrBits : Nat) (subBits verbBits : List Nat) (hh : hdrBits ≤ 120)
    (hs : subBits.sum ≤ verbBits.sum) :
    (hdrBits + 8) / 8 + (subBits.sum + 7) / 8 + 2 ≤ 16 + (verbBits.sum + 7) / 8 + 2 := by
  -- summand by summand; `(120 + 8) / 8 = 16`
  exact Nat.add_le_add_right (Nat.add_le_add (Nat.div_le_div_right (Nat.add_le_add_right hh 8))
    (Nat.div_le_div_right (Nat.add_le_add_right hs 7))) 2

/-- non-vacuity: a candidate of 10 bits against 4 samples of 16 bits is kept; one of 100 bits is
    replaced by VERBATIM (8 + 64 bits) -/
example : chosenBits (some 10) 8 4 16 = 10 ∧ chosenBits (some 100) 8 4 16 = 72 ∧ chosenBits none 8 4 16 = 72 := by decide

end Flac.C19
