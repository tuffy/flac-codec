/-
  Props/C01e.lean — C01, wasted bits: the shift `encode_subframe` chooses divides every sample of the channel, so shifting right by it
  loses nothing (the decoder's left shift restores each sample: `C01.wasted_inverse`, `C01.wasted_restores`); and the CONSTANT shortcut
  it takes when the fold ends at its start value is taken only for an all-zero channel.  Likewise the `all_0` flag of
  `correlate_channels`, computed from a channel's own absolute sum, marks exactly the all-zero channels.
-/
import FlacModel.Model.Wasted
import FlacModel.Props.C01d

namespace Flac.C01
open Flac Flac.Gen

theorem tzAux_dvd (f n : Nat) : 2 ^ tzAux f n ∣ n := by
  fun_induction tzAux f n with
  | case1 | case3 => exact Nat.one_dvd _
  | case2 f n h ih => rw [Nat.pow_succ']; exact Nat.mul_dvd_of_dvd_div (Nat.dvd_of_mod_eq_zero h) ih

theorem tzAux_le (f n : Nat) : tzAux f n ≤ f := by
  fun_induction tzAux f n with
  | case1 | case3 => exact Nat.zero_le _
  | case2 f n h ih => exact Nat.succ_le_succ ih

/-- every power of two up to `2 ^ trailing_zeros(x)` divides `x`; for `x = 0` (count 32) anything does -/
theorem tz32_dvd (x : Int) (w : Nat) (hw : w ≤ tz32 x) : ((2 : Int) ^ w) ∣ x := by
  unfold tz32 at hw
  split at hw
  · rw [‹x = 0›]; exact Int.dvd_zero _
  · have : ((2 ^ w : Nat) : Int) ∣ x :=
      Int.ofNat_dvd_left.mpr (Nat.dvd_trans (Nat.pow_dvd_pow 2 hw) (tzAux_dvd 32 x.natAbs))
    simpa using this

theorem encWastedFold_none (xs : List Int) : encWastedFold none xs = none := by
  cases xs <;> rfl

/-- the fold's invariant: the accumulator never exceeds a trailing-zero count seen so far, nor its start value -/
theorem encWastedFold_le (a : Nat) (xs : List Int) (w : Nat) (h : encWastedFold (some a) xs = some w) :
    w ≤ a ∧ ∀ x ∈ xs, w ≤ tz32 x := by
  induction xs generalizing a with
  | nil => obtain rfl := Option.some.inj h; exact ⟨Nat.le_refl _, nofun⟩
  | cons x xs ih =>
    rw [encWastedFold, encWastedStep] at h
    split at h
    · rw [encWastedFold_none] at h; cases h
    · obtain ⟨h1, h2⟩ := ih _ h
      exact ⟨Nat.le_trans h1 (Nat.min_le_right ..), List.forall_mem_cons.mpr ⟨Nat.le_trans h1 (Nat.min_le_left ..), h2⟩⟩

theorem encWasted_eq_shift {channel : List Int} {w : Nat} :
    encWasted channel = .shift w ↔ encWastedFold (some encWastedMax) channel = some w ∧ w ≠ encWastedMax := by
  unfold encWasted
  cases encWastedFold (some encWastedMax) channel with
  | none => simp
  | some a => by_cases ha : a = encWastedMax <;> simp [ha] <;> omega

theorem encWasted_eq_allZero {channel : List Int} :
    encWasted channel = .allZero ↔ encWastedFold (some encWastedMax) channel = some encWastedMax := by
  unfold encWasted
  cases encWastedFold (some encWastedMax) channel with
  | none => simp
  | some a => by_cases ha : a = encWastedMax <;> simp [ha]

/-- **The chosen shift divides every sample**: whatever `encode_subframe` removes as wasted bits, every sample of the channel is a multiple
    of `2 ^ w`, so `(x >> w) << w = x` for each of them and the decoder's left shift restores the channel exactly. -/
theorem wasted_shift_lossless (channel : List Int) (w : Nat) (h : encWasted channel = .shift w) :
    w < encWastedMax ∧ ∀ x ∈ channel, x / (2 : Int) ^ w * (2 : Int) ^ w = x := by
  obtain ⟨hf, hv⟩ := encWasted_eq_shift.mp h
  obtain ⟨h1, h2⟩ := encWastedFold_le _ _ _ hf
  exact ⟨Nat.lt_of_le_of_ne h1 hv, fun x hx => Int.ediv_mul_cancel (tz32_dvd x _ (h2 x hx))⟩

/-- the CONSTANT shortcut (`Some(WASTED_MAX)`) is taken only when every sample is 0 (for a non-empty channel of 32-bit samples) -/
theorem wasted_allzero_sound (channel : List Int) (hr : ∀ x ∈ channel, x.natAbs ≤ 2 ^ 31) (h : encWasted channel = .allZero) :
    ∀ x ∈ channel, x = 0 := by
  intro x hx
  -- the fold ended at its start value `encWastedMax`, which is 32 (regenerated): `x` is a multiple of `2^32` (`tz32_dvd`) of
  -- magnitude at most `2^31`
  obtain ⟨k, hk⟩ := tz32_dvd x 32 ((encWastedFold_le _ _ _ (encWasted_eq_allZero.mp h)).2 x hx)
  have := hr x hx
  omega

/-- the accumulator `X_abs_sum` of `correlate_channels`: the sum of `unsigned_abs` over a channel -/
def absSum (xs : List Int) : Nat := (xs.map Int.natAbs).sum

/-- `X_abs_sum == 0` holds exactly for an all-zero channel — so a flag computed from a channel's OWN absolute sum marks exactly the
    channels for which the CONSTANT subframe `encode_subframe` then writes (value `channel[0]` = 0) is lossless -/
theorem absSum_zero_iff (xs : List Int) : absSum xs = 0 ↔ ∀ x ∈ xs, x = 0 := by
  simp only [absSum, List.sum_eq_zero_iff_forall_eq_nat, List.forall_mem_map, Int.natAbs_eq_zero]

/-- regenerated from `correlate_channels`: in each of its `CorrelatedChannel` literals the `all_0` flag is `false` or the absolute sum of
    the sample vector of that same literal compared with 0 (never another channel's) -/
theorem all0_flags_own_channel : encAll0FlagsOwnChannel = true ∧ 0 < encCorrelatedChannelLiterals := ⟨rfl, by decide⟩

/-- a CONSTANT subframe of value 0 reproduces a channel whose own absolute sum is 0 -/
theorem all0_constant_lossless (xs : List Int) (h : absSum xs = 0) : List.replicate xs.length (0 : Int) = xs :=
  (List.eq_replicate_of_mem ((absSum_zero_iff xs).mp h)).symm

/-- each outcome occurs: a shift (3 common trailing zeros; 31 for the most negative sample alone), the all-zero shortcut, no wasted bits -/
example : encWasted [8, -24, 0, 40] = .shift 3 ∧ encWasted [0, 0] = .allZero ∧ encWasted [4, 6, 1] = .none ∧ encWasted [-2147483648] = .shift 31 := by decide

end Flac.C01
