/-
  Props/C06.lean — C06: seeking lands exactly on the requested position.
  A seek is `Decoder::seek`, which lands on a frame boundary at or before the target (`seek_lands`), followed by the
  skip-forward loop, which drops exactly the units in between (`skipTo_spec`); together the reader behaves like a cursor
  over the decoded PCM (`seek_refines_cursor`).  What byte position a `SeekFrom` request names is `end_seek_in_bytes` and
  `start_current_targets`.  The channel reader is the generic reader seen through one channel (`view`, below).
  Hypothesis `TableTruthful` (every defined seek point names the first sample and byte offset of a real frame) is what
  `finalize_table_truthful` (Props/C06b.lean) establishes for the crate's own writer, from C09's `written_points_truthful`;
  tables that lie are outside the property's quantifier.
-/
import FlacModel.Props.C07

namespace Flac.C06
open Flac Flac.C07

/-- every defined seek point names a real frame: the frames before it hold exactly `sample`
    samples and it is the first frame at that byte offset -/
def TableTruthful (s : Stream) : Prop :=
  ∀ pts, s.table = some pts → ∀ so bo fsz, SeekPt.defined so bo fsz ∈ pts →
    ∃ pre g post, s.frames = pre ++ g :: post ∧ (∀ f ∈ pre, f.off ≠ bo) ∧ g.off = bo ∧ lens pre = so

/-- `Good` at the start of the stream -/
def StreamOk (s : Stream) : Prop := Good s { rest := s.frames, cur := 0 }

theorem lastPointLe_mem (pts : List SeekPt) (sample so bo : Nat) (h : lastPointLe pts sample = some (so, bo)) :
    ∃ fsz, SeekPt.defined so bo fsz ∈ pts ∧ so ≤ sample := by
  revert h
  refine List.foldlRecOn pts _ (motive := fun acc => acc = some (so, bo) → ∃ fsz, SeekPt.defined so bo fsz ∈ pts ∧ so ≤ sample)
    nofun fun acc ih p hp h => ?_
  cases p with
  | placeholder => exact ih h
  | defined so' bo' fsz' =>
    dsimp only at h
    split at h
    next hle =>
      obtain ⟨rfl, rfl⟩ := Prod.mk.inj (Option.some.inj h)
      exact ⟨fsz', hp, hle⟩
    next => exact ih h

/-- **Decoder::seek lands on a frame boundary at or before the target**, and the decoder is again
    in a good state there -/
theorem seek_lands (s : Stream) (sample : Nat) (hok : StreamOk s) (ht : TableTruthful s) :
    ∃ pre post, s.frames = pre ++ post ∧ (Dec.seek s sample).1 = { rest := post, cur := lens pre }
      ∧ (Dec.seek s sample).2 = lens pre ∧ lens pre ≤ sample ∧ Good s { rest := post, cur := lens pre } := by
  have good_of {pre post : List FrameInfo} (hsplit : s.frames = pre ++ post) : Good s { rest := post, cur := lens pre } := by
    have h : Good s { rest := pre ++ post, cur := 0 } := hsplit ▸ hok
    simpa only [Nat.zero_add] using h.suffix
  unfold Dec.seek
  cases hl : s.table.bind (fun pts => lastPointLe pts sample) with
  | none => exact ⟨[], s.frames, rfl, rfl, rfl, Nat.zero_le _, good_of rfl⟩
  | some sb =>
    obtain ⟨so, bo⟩ := sb
    obtain ⟨pts, htab, hl⟩ := Option.bind_eq_some_iff.mp hl
    obtain ⟨fsz, hm, hle⟩ := lastPointLe_mem pts sample so bo hl
    obtain ⟨pre, g, post, hsplit, hpre, hg, rfl⟩ := ht pts htab so bo fsz hm
    refine ⟨pre, g :: post, hsplit, ?_, rfl, hle, good_of hsplit⟩
    dsimp only
    rw [hsplit, List.dropWhile_append_of_pos (by simpa using hpre), List.dropWhile_cons_of_neg (by simp [hg])]

/-- the skip-forward loop consumes exactly the requested number of units when that many remain,
    and fails (never returning data from elsewhere) when they do not -/
theorem skipTo_spec (s : Stream) (enc : FrameInfo → List α) (want : Nat) (fuel : Nat) (r : Rd α) (pos : Nat)
    (hg : Good s r.dec) (henc : ∀ f ∈ r.dec.rest, enc f ≠ []) (hfuel : want - pos < fuel) :
    (want - pos ≤ (remaining enc r).length →
        ∃ r', Rd.skipTo s enc want fuel r pos = (none, r') ∧ Good s r'.dec
          ∧ remaining enc r' = (remaining enc r).drop (want - pos))
    ∧ ((remaining enc r).length < want - pos → ∃ e r', Rd.skipTo s enc want fuel r pos = (some e, r')) := by
  induction fuel generalizing r pos with
  | zero => exact absurd hfuel (Nat.not_lt_zero _)
  | succ fuel ih =>
    unfold Rd.skipTo
    by_cases hp : pos ≥ want
    · rw [if_pos hp, Nat.sub_eq_zero_of_le hp]
      exact ⟨fun _ => ⟨r, rfl, hg, rfl⟩, fun h => absurd h (Nat.not_lt_zero _)⟩
    · rw [if_neg hp]
      obtain ⟨r1, h1, hg1, hrem, hemp⟩ := refill_good s enc r hg
      obtain ⟨henc1, hemp⟩ := hemp henc
      simp only [Rd.fill, h1]
      by_cases hb : r1.buf = []
      · rw [hb, List.isEmpty_nil, if_pos rfl, hemp hb]
        exact ⟨fun h => absurd (Nat.le_zero.mp h) (Nat.sub_ne_zero_of_lt (Nat.lt_of_not_le hp)), fun _ => ⟨_, _, rfl⟩⟩
      · rw [if_neg (by simpa using hb)]
        -- one turn consumes `m` units: at least one, no more than asked for, no more than are buffered
        have hm : 0 < min r1.buf.length (want - pos) ∧ min r1.buf.length (want - pos) ≤ want - pos
            ∧ min r1.buf.length (want - pos) ≤ r1.buf.length :=
          ⟨Nat.lt_min.mpr ⟨List.length_pos_iff.mpr hb, Nat.sub_pos_of_lt (Nat.lt_of_not_le hp)⟩, Nat.min_le_right .., Nat.min_le_left ..⟩
        generalize min r1.buf.length (want - pos) = m at hm ⊢
        have hlen : r1.buf.length ≤ (remaining enc r).length := by rw [← hrem]; simp [remaining]
        have ih := ih (r1.consume m) (pos + m) hg1 henc1
        -- the induction hypothesis, about the state after this turn, read as a statement about `remaining enc r`
        rw [Nat.sub_add_eq, remaining_consume enc r1 m hm.2.2, hrem, List.length_drop, List.drop_drop] at ih
        generalize want - pos = n at *
        obtain ⟨ihA, ihB⟩ := ih (by omega)
        rw [Nat.add_sub_cancel' hm.2.1] at ihA
        exact ⟨fun h => ihA (Nat.sub_le_sub_right h m), fun h => ihB (Nat.sub_lt_sub_right (Nat.le_trans hm.2.2 hlen) h)⟩

/-- **seek_refines_cursor** (generic over the unit: bytes for the byte reader with `u` =
    bytes per PCM frame, interleaved samples for the sample reader with `u` = channels).
    After repositioning with `Decoder::seek` and the skip-forward loop, what the reader will deliver
    is exactly the full stream from unit `target·u + extra` on — like a cursor over the decoded
    PCM — when that position exists, and the seek fails when it does not. -/
theorem seek_refines_cursor (s : Stream) (enc : FrameInfo → List α) (u : Nat) (want : Nat) (sample : Nat)
    (hok : StreamOk s) (ht : TableTruthful s) (hu : 0 < u)
    (hlen : ∀ f ∈ s.frames, (enc f).length = f.len * u)
    (hsample : sample * u ≤ want) (fuel : Nat) (hfuel : want < fuel) :
    (want ≤ (s.frames.flatMap enc).length →
      ∃ r', Rd.skipTo s enc want fuel { dec := (Dec.seek s sample).1, buf := [] } ((Dec.seek s sample).2 * u) = (none, r')
        ∧ remaining enc r' = (s.frames.flatMap enc).drop want ∧ Good s r'.dec)
    ∧ ((s.frames.flatMap enc).length < want →
      ∃ e r', Rd.skipTo s enc want fuel { dec := (Dec.seek s sample).1, buf := [] } ((Dec.seek s sample).2 * u) = (some e, r')) := by
  obtain ⟨pre, post, hsplit, hdec, hland, hle, hgood⟩ := seek_lands s sample hok ht
  rw [hdec, hland]
  have hmem {f : FrameInfo} (hf : f ∈ pre ∨ f ∈ post) : f ∈ s.frames := by rw [hsplit]; exact List.mem_append.mpr hf
  have hpos : ∀ f ∈ post, enc f ≠ [] := fun f hf he => by
    have := hlen f (hmem (.inr hf))
    rw [he] at this
    exact Nat.ne_of_lt (Nat.mul_pos (hgood.1 f hf) hu) this
  have hprelen : (pre.flatMap enc).length = lens pre * u := length_flatMap_lens enc u pre fun f hf => hlen f (hmem (.inl hf))
  have hle2 : lens pre * u ≤ want := Nat.le_trans (Nat.mul_le_mul_right u hle) hsample
  obtain ⟨hA, hB⟩ := skipTo_spec s enc want fuel { dec := { rest := post, cur := lens pre }, buf := [] } (lens pre * u)
    hgood hpos (Nat.lt_of_le_of_lt (Nat.sub_le ..) hfuel)
  -- `Decoder::seek` has passed over the frames before the landing point, and only those
  have hremain : remaining enc { dec := { rest := post, cur := lens pre }, buf := [] } = (s.frames.flatMap enc).drop (lens pre * u) := by
    rw [hsplit, List.flatMap_append, ← hprelen, List.drop_left]; rfl
  have hall : lens pre * u ≤ (s.frames.flatMap enc).length := by
    rw [hsplit, List.flatMap_append, List.length_append, hprelen]; exact Nat.le_add_right ..
  rw [hremain, List.length_drop] at hA hB
  rw [List.drop_drop, Nat.add_sub_cancel' hle2] at hA
  exact ⟨fun hw => let ⟨r', e1, e2, e3⟩ := hA (Nat.sub_le_sub_right hw _); ⟨r', e1, e3, e2⟩,
    fun hw => hB (Nat.sub_lt_sub_right hall hw)⟩

/-- **End-relative requests are measured in BYTES**: on a stream of `t` PCM frames of `bpf` bytes,
    `End(−k)` asks for byte `t·bpf − k`, `End(0)` for `t·bpf`, and a positive offset is refused -/
theorem end_seek_in_bytes (s : Stream) (r : Rd Nat) (t k : Nat) (htot : s.total = some t)
    (hk : k ≤ t * (bytesPerSample s.bps * s.ch)) :
    byteSeekTarget s r .fromEnd (-(k : Int)) = .ok (t * (bytesPerSample s.bps * s.ch) - k)
    ∧ (∀ j : Nat, 0 < j → byteSeekTarget s r .fromEnd (j : Int) = .error (.err "Io(InvalidInput)"))
    ∧ (t * (bytesPerSample s.bps * s.ch) < k + 0 → False) := by
  unfold byteSeekTarget
  simp only [htot]
  generalize t * (bytesPerSample s.bps * s.ch) = T at hk ⊢
  refine ⟨?_, fun j hj => ?_, fun h => Nat.not_le_of_lt h hk⟩
  · rcases Nat.eq_zero_or_pos k with rfl | hk0
    · rfl
    · rw [if_pos (by omega), if_neg (by omega)]
      exact congrArg Except.ok (by omega)
  · rw [if_neg (by omega), if_neg (by simp; omega)]

/-- start-relative requests are taken literally; current-relative ones from
    `current_sample·bpf − |buffer|`, the number of bytes delivered so far -/
theorem start_current_targets (s : Stream) (r : Rd Nat) (n : Nat) (d : Int) (hd : 0 < d)
    (hsmall : ((r.dec.cur * (bytesPerSample s.bps * s.ch) : Nat) : Int) - (r.buf.length : Nat) + d < 18446744073709551616) :
    byteSeekTarget s r .start (n : Int) = .ok n
    ∧ byteSeekTarget s r .current d = .ok (((r.dec.cur * (bytesPerSample s.bps * s.ch) : Nat) : Int) - (r.buf.length : Nat) + d).toNat := by
  unfold byteSeekTarget
  dsimp only
  generalize ((r.dec.cur * (bytesPerSample s.bps * s.ch) : Nat) : Int) - (r.buf.length : Nat) = p at hsmall ⊢
  exact ⟨if_neg (by omega), by rw [if_neg (by omega), if_neg (by simp; omega), if_neg (by omega)]⟩

/-- PCM frames the channel reader can still hand out -/
def avail (r : ChanRd) : Nat := (r.pcmFrames - r.consumed) + lens r.dec.rest

/-- channel `c` exists in the frame being consumed and in every unread frame -/
def ChanIn (c : Nat) (r : ChanRd) : Prop := (∀ f ∈ r.dec.rest, c < f.chans.length) ∧ (r.frame = [] ∨ c < r.frame.length)

theorem rest_chan_length (c : Nat) (fs : List FrameInfo) (hrect : ∀ f ∈ fs, Rect f) (hin : ∀ f ∈ fs, c < f.chans.length) :
    (fs.flatMap (fun f => f.chans.getD c [])).length = lens fs := by
  have := length_flatMap_lens (fun f => f.chans.getD c []) 1 fs fun f hf => by rw [getD_length (hrect f hf) (hin f hf), Nat.mul_one]
  rwa [Nat.mul_one] at this

theorem frame_chan_length (c : Nat) (r : ChanRd) (hr : FrameRect r) (hin : r.frame = [] ∨ c < r.frame.length) :
    (r.frame.getD c []).length = r.pcmFrames := by
  rcases hin with h | h
  · rw [ChanRd.pcmFrames, h]; rfl
  · exact getD_length hr h

theorem chanRemaining_length (c : Nat) (r : ChanRd) (hr : FrameRect r) (hrest : ∀ f ∈ r.dec.rest, Rect f) (hin : ChanIn c r) :
    (chanRemaining c r).length = avail r := by
  simp only [chanRemaining, List.length_append, List.length_drop, frame_chan_length c r hr hin.2,
    rest_chan_length c r.dec.rest hrest hin.1, avail]

/-! #### seen through one channel, the channel reader is the generic reader over that channel's samples

The skip loop and the seek are therefore not analysed a second time: `ChanRd.skipTo` takes the steps of `Rd.skipTo` on the view
(`chanSkipTo_view`), and `skipTo_spec` / `seek_refines_cursor` apply.  This needs channel `c` to exist in every frame (`ChanIn`): for
an absent channel the view's buffer is empty while the frame is not used up, and the two readers part ways. -/

def view (c : Nat) (r : ChanRd) : Rd Int := { dec := r.dec, buf := (r.frame.getD c []).drop r.consumed }

theorem remaining_view (c : Nat) (r : ChanRd) : remaining (fun f => f.chans.getD c []) (view c r) = chanRemaining c r := rfl

theorem view_consume (c : Nat) (r : ChanRd) (m : Nat) : (view c r).consume m = view c (r.consume m) := by
  simp only [view, Rd.consume, ChanRd.consume, List.drop_drop]

/-- where the view's buffer is as long as what is left of the frame in hand, `fill_buf` of the view is `fill_buf` of the channel
    reader seen through the view: both turn to `read_frame` at the same moment and in the same state -/
theorem view_fill (s : Stream) (c : Nat) (r : ChanRd) (hlen : (view c r).buf.length = r.pcmFrames - r.consumed) :
    (view c r).fill s (fun f => f.chans.getD c []) =
      match r.fill s with
      | .error e => .error e
      | .ok (_, r') => .ok ((view c r').buf, view c r') := by
  unfold ChanRd.fill Rd.fill Rd.refill
  by_cases hc : r.consumed < r.pcmFrames
  · rw [if_pos hc, List.isEmpty_eq_false_iff.mpr (List.ne_nil_of_length_pos (by omega))]
    rfl
  · rw [if_neg hc, List.length_eq_zero_iff.mp (by omega : (view c r).buf.length = 0), List.isEmpty_nil, if_pos rfl,
      show (view c r).dec = r.dec from rfl]
    cases r.dec.readFrame s with
    | error e => rfl
    | ok p => obtain ⟨_ | f, d⟩ := p <;> rfl

/-- `fill_buf` of the channel reader is `fill_buf` of the view, and shows as many PCM frames as the view shows samples -/
theorem chanFill_view (s : Stream) (c : Nat) (r : ChanRd) (h : ChanGood s r) (hin : ChanIn c r) :
    ∃ b r', r.fill s = .ok (b, r') ∧ (view c r).fill s (fun f => f.chans.getD c []) = .ok ((view c r').buf, view c r')
      ∧ (b.headD []).length = (view c r').buf.length ∧ ChanGood s r' ∧ ChanIn c r' := by
  have hlen : (view c r).buf.length = r.pcmFrames - r.consumed := by
    simp only [view, List.length_drop, frame_chan_length c r h.2.1 hin.2]
  have hv := view_fill s c r hlen
  rcases chanFill_cases s r h with ⟨_, hfill⟩ | ⟨_, ⟨_, hfill, hg'⟩ | ⟨f, fs, hr0, hfill, hg'⟩⟩ <;> rw [hfill] at hv
  · exact ⟨_, r, hfill, hv, by rw [headD_map_drop, hlen]; rfl, h, hin⟩
  · -- the first of no channels, or of `s.ch` empty ones, is empty
    exact ⟨_, _, hfill, hv, by cases s.ch <;> rfl, hg', hin.1, .inl rfl⟩
  · have hf : c < f.chans.length := hin.1 f (hr0 ▸ List.mem_cons_self ..)
    exact ⟨_, _, hfill, hv, (getD_length hg'.2.1 hf).symm, hg', fun g hg => hin.1 g (hr0 ▸ List.mem_cons_of_mem f hg), .inr hf⟩

theorem chanSkipTo_view (s : Stream) (c : Nat) (want : Nat) (fuel : Nat) (r : ChanRd) (pos : Nat) (h : ChanGood s r) (hin : ChanIn c r) :
    (∀ x, Rd.skipTo s (fun f => f.chans.getD c []) want fuel (view c r) pos = (none, x) →
      ∃ r', ChanRd.skipTo s want fuel r pos = (none, r') ∧ x = view c r' ∧ ChanGood s r')
    ∧ (∀ e x, Rd.skipTo s (fun f => f.chans.getD c []) want fuel (view c r) pos = (some e, x) →
      ∃ e' r', ChanRd.skipTo s want fuel r pos = (some e', r')) := by
  induction fuel generalizing r pos with
  | zero => exact ⟨fun x hx => ⟨r, rfl, (Prod.mk.inj hx).2.symm, h⟩, fun e x hx => by cases hx⟩
  | succ fuel ih =>
    unfold ChanRd.skipTo Rd.skipTo
    by_cases hp : pos ≥ want
    · rw [if_pos hp, if_pos hp]
      exact ⟨fun x hx => ⟨r, rfl, (Prod.mk.inj hx).2.symm, h⟩, fun e x hx => by cases hx⟩
    · rw [if_neg hp, if_neg hp]
      obtain ⟨b, r1, h1, h2, hb, hg1, hin1⟩ := chanFill_view s c r h hin
      have hemp : (b.headD []).isEmpty = (view c r1).buf.isEmpty := by
        rw [Bool.eq_iff_iff, List.isEmpty_iff_length_eq_zero, List.isEmpty_iff_length_eq_zero, hb]
      simp only [h1, h2, hemp, hb]
      cases (view c r1).buf.isEmpty with
      | true => exact ⟨fun x hx => (by cases hx), fun _ _ _ => ⟨_, r1, rfl⟩⟩
      | false =>
        simp only [Bool.false_eq_true, if_false, view_consume]
        exact ih _ _ hg1 hin1

/-- the channel reader's skip-forward loop drops exactly the requested number of PCM frames from EVERY channel when
    that many remain, and fails otherwise -/
theorem chan_skipTo_spec (s : Stream) (c : Nat) (want : Nat) (fuel : Nat) (r : ChanRd) (pos : Nat)
    (hg : Good s r.dec) (hr : FrameRect r) (hrest : ∀ f ∈ r.dec.rest, Rect f) (hin : ChanIn c r) (hfuel : want - pos < fuel) :
    (want - pos ≤ avail r →
        ∃ r', ChanRd.skipTo s want fuel r pos = (none, r') ∧ Good s r'.dec ∧ FrameRect r' ∧ (∀ f ∈ r'.dec.rest, Rect f)
          ∧ chanRemaining c r' = (chanRemaining c r).drop (want - pos))
    ∧ (avail r < want - pos → ∃ e r', ChanRd.skipTo s want fuel r pos = (some e, r')) := by
  obtain ⟨hV, hW⟩ := chanSkipTo_view s c want fuel r pos ⟨hg, hr, hrest⟩ hin
  have henc : ∀ f ∈ (view c r).dec.rest, (fun f : FrameInfo => f.chans.getD c []) f ≠ [] := fun f hf hnil =>
    Nat.ne_of_lt (hg.1 f hf) ((congrArg List.length hnil).symm.trans (getD_length (hrest f hf) (hin.1 f hf)))
  obtain ⟨hA, hB⟩ := skipTo_spec s _ want fuel (view c r) pos hg henc hfuel
  rw [remaining_view, chanRemaining_length c r hr hrest hin] at hA hB
  constructor
  · intro hle
    obtain ⟨x, e1, _, e3⟩ := hA hle
    obtain ⟨r', h1, rfl, hg'⟩ := hV x e1
    exact ⟨r', h1, hg'.1, hg'.2.1, hg'.2.2, e3⟩
  · intro hlt
    obtain ⟨e, x, e1⟩ := hB hlt
    exact hW e x e1

/-- **chan_seek_lands**: after `FlacChannelReader::seek(sample)` on a valid rectangular stream with a truthful seek table
    (or none), what channel `c` will deliver is exactly that channel of the whole stream from PCM frame `sample` on, when
    that position exists; and the seek fails when it does not. -/
theorem chan_seek_lands (s : Stream) (c : Nat) (sample : Nat) (hok : StreamOk s) (ht : TableTruthful s)
    (hrect : ∀ f ∈ s.frames, Rect f) (hin : ∀ f ∈ s.frames, c < f.chans.length) :
    (sample ≤ lens s.frames →
      ∃ r', ChanRd.seek s sample = (none, r')
        ∧ chanRemaining c r' = (s.frames.flatMap (fun f => f.chans.getD c [])).drop sample ∧ Good s r'.dec)
    ∧ (lens s.frames < sample → ∃ e r', ChanRd.seek s sample = (some e, r')) := by
  -- the generic reader's seek theorem at one unit per PCM frame, carried over along the view
  obtain ⟨hA, hB⟩ := seek_refines_cursor s (fun f => f.chans.getD c []) 1 sample sample hok ht Nat.one_pos
    (fun f hf => by rw [getD_length (hrect f hf) (hin f hf), Nat.mul_one]) (Nat.le_of_eq (Nat.mul_one _)) (sample + 2)
    (Nat.lt_add_of_pos_right Nat.two_pos)
  rw [rest_chan_length c s.frames hrect hin, Nat.mul_one] at hA hB
  obtain ⟨pre, post, hsplit, hdec, _, _, hgood⟩ := seek_lands s sample hok ht
  have hsub : ∀ f ∈ post, f ∈ s.frames := fun f hf => hsplit ▸ List.mem_append_right pre hf
  obtain ⟨hV, hW⟩ := chanSkipTo_view s c sample (sample + 2)
    { dec := (Dec.seek s sample).1, frame := [], consumed := 0 } (Dec.seek s sample).2
    (by rw [hdec]; exact ⟨hgood, nofun, fun f hf => hrect f (hsub f hf)⟩)
    ⟨by rw [hdec]; exact fun f hf => hin f (hsub f hf), .inl rfl⟩
  constructor
  · intro hw
    obtain ⟨x, e1, e2, e3⟩ := hA hw
    obtain ⟨r', h1, rfl, _⟩ := hV x e1
    exact ⟨r', h1, e2, e3⟩
  · intro hw
    obtain ⟨e, x, e1⟩ := hB hw
    exact hW e x e1

end Flac.C06
