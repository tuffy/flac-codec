/-
  Props/C19c.lean — C19, the constant-block clause end to end for the FIXED candidate: a block of n ≥ 2 equal non-zero samples is
  written by `encode_fixed_subframe` as order 1 with an all-zero residual (C19b), `write_residuals` turns every partition of it into
  the zero-width escape whatever coding method and partition order its search picks, no partitioning has more than `MAX_PARTITIONS`
  parts (C15b), so the candidate's size is bounded independently of the block length, and so is what `encode_subframe` keeps.
-/
import FlacModel.Props.C19b
import FlacModel.Props.C15b

namespace Flac.C19
open Flac Flac.Gen

theorem sliceBy_mem (sizes : List Nat) (l : List Int) : ∀ s ∈ sliceBy sizes l, ∀ x ∈ s, x ∈ l := by
  induction sizes generalizing l with
  | nil => nofun
  | cons k ks ih =>
    intro s hs x hx
    rcases List.mem_cons.mp hs with rfl | hs
    · exact List.mem_of_mem_take hx
    · exact List.mem_of_mem_drop (ih _ s hs x hx)

theorem sliceBy_length (sizes : List Nat) (l : List Int) : (sliceBy sizes l).length = sizes.length := by
  induction sizes generalizing l with
  | nil => rfl
  | cons k ks ih => rw [sliceBy, List.length_cons, List.length_cons, ih]

/-- every partition `write_residuals` makes of an all-zero residual is the zero-width escape, and there is one per slice -/
theorem encResidual_zero (coded : List Int → Partition) (method po bs order : Nat) (rs : List Int) (hrs : ∀ x ∈ rs, x = 0)
    (r : Residual) (h : encResidual coded method po bs order rs = some r) :
    zeroParts r ∧ r.method = method ∧ r.parts.length = 2 ^ po := by
  unfold encResidual at h
  split at h
  · cases h
  · rename_i sizes hl
    obtain rfl := Option.some.inj h
    refine ⟨fun pt hpt => ?_, rfl, ?_⟩
    · obtain ⟨s, hs, rfl⟩ := List.mem_map.mp hpt
      have hz : s.all (· == 0) = true :=
        List.all_eq_true.mpr fun x hx => beq_iff_eq.mpr (hrs x (sliceBy_mem sizes rs s hs x hx))
      exact ⟨s.length, if_pos (Bool.and_eq_true_iff.mpr ⟨rfl, hz⟩)⟩
    · -- one partition per slice, and a layout `best_partitions` accepts has `2^po` slices
      rw [encLayout, Option.ite_none_right_eq_some] at hl
      rw [List.length_map, sliceBy_length, ← Option.some.inj hl.2, eq_of_beq hl.1]

/-- **The FIXED candidate of a constant block is small, whatever the block length** — with nothing assumed about the encoder's choices:
    for every sample value `v ≠ 0`, every length `n + 2`, every wasted-bit count, coding method, candidate partition order and Rice
    search, the subframe `encode_fixed_subframe` + `write_residuals` produce is at most 8 + wasted + 4 warm-up samples + 646 bits. -/
theorem constant_block_fixed_small (v : Int) (hv : v ≠ 0) (n bps w method tz maxPo po : Nat) (coded : List Int → Partition)
    (hm : method ≤ 1) (hpo : po ∈ C15.candidateOrders tz maxPo) (res : Residual)
    (hres : encResidual coded method po (n + 2) (fixedPick (List.replicate (n + 2) v)).1 (fixedPick (List.replicate (n + 2) v)).2 = some res) :
    (writeSubframe bps { wasted := w, body := .fixed (fixedPick (List.replicate (n + 2) v)).1 [v] res }).length
      ≤ 8 + w + 4 * (bps - w) + (6 + encMaxPartitions * 10) := by
  rw [constant_block_fixed_zero v hv n] at hres ⊢
  obtain ⟨hz, hmeth, hlen⟩ := encResidual_zero coded method po (n + 2) 1 _ (fun _ => List.eq_of_mem_replicate) res hres
  exact fixed_zero_candidate_bits bps w 1 [v] res (by omega) rfl (by omega) hz (by rw [hlen]; exact C15.candidates_fit tz maxPo po hpo)

/-- … and so is the subframe `encode_subframe` keeps, whatever the LPC candidate costs -/
theorem constant_block_chosen_small (v : Int) (hv : v ≠ 0) (n bps w method tz maxPo po : Nat) (coded : List Int → Partition)
    (hm : method ≤ 1) (hpo : po ∈ C15.candidateOrders tz maxPo) (res : Residual)
    (hres : encResidual coded method po (n + 2) (fixedPick (List.replicate (n + 2) v)).1 (fixedPick (List.replicate (n + 2) v)).2 = some res)
    (lpcBits hdr blk : Nat) :
    chosenBits (some (encPickCandidate (writeSubframe bps { wasted := w, body := .fixed (fixedPick (List.replicate (n + 2) v)).1 [v] res }).length lpcBits)) hdr blk bps
      ≤ 8 + w + 4 * (bps - w) + (6 + encMaxPartitions * 10) + hdr :=
  Nat.le_trans (constant_block_small_partial _ lpcBits hdr blk bps)
    (Nat.add_le_add_right (constant_block_fixed_small v hv n bps w method tz maxPo po coded hm hpo res hres) hdr)

/-- non-vacuity: a block of 8 equal samples (7 zero residuals at order 1), partition order 2 -/
example : (encResidual (fun rs => .rice 0 rs) 0 2 8 1 (List.replicate 7 0)).map (·.parts) = some [.zero 1, .zero 2, .zero 2, .zero 2] := by decide

end Flac.C19
