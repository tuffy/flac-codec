/-
  Props/C15.lean — C15: writer APIs validate their parameters and honour the declared length.
-/
import FlacModel.Model.Ctor

namespace Flac.C15
open Flac Gen

theorem declaredFrames_no_panic (a : CtorArgs) (s : String) : declaredFrames a ≠ .error (.panic s) := by
  fun_cases declaredFrames a
  -- case4 / case9: the `exact_div` panic leaf of the sample / the byte front end, `channels == 0` without the guard the source
  -- has (`h : ¬ encExactDivGuardsZero`, regenerated); every other leaf is a value or an ordinary error
  case case4 h | case9 h => exact absurd rfl h
  all_goals nofun

/-- **ctor_total**: for every combination of arguments the constructor returns a writer or an error;
    no panic site is reachable (zero channel counts and a 1-bit depth included) -/
theorem ctor_total (a : CtorArgs) : ∀ s, ctor a ≠ .error (.panic s) ∧ optionsOk a ≠ .error (.panic s) := by
  intro s
  refine ⟨?_, by fun_cases optionsOk a <;> nofun⟩
  fun_cases ctor a
  -- case2: `declaredFrames` fails and its error is passed on
  case case2 e he => exact fun hc => declaredFrames_no_panic a s (he.trans hc)
  -- case6: the `unwrap` for 1-bit streams: unreachable since `metaDepthOneWritable` (regenerated) holds
  case case6 h => rw [show metaDepthOneWritable = true from rfl, Bool.not_true, Bool.and_false] at h; cases h
  all_goals nofun

/-- **documented_values_accepted**: depths 1–32, 1–8 channels, rates below 2²⁰, LPC orders up to 32
    (or none), partition orders up to 15, block sizes from 16, with no declared total, are accepted -/
theorem documented_values_accepted (a : CtorArgs) (hb : 1 ≤ a.bps ∧ a.bps ≤ 32) (hc : 1 ≤ a.channels ∧ a.channels ≤ 8)
    (hr : a.rate < 2 ^ 20) (hl : ∀ o, a.maxLpc = some o → 1 ≤ o ∧ o ≤ 32) (hp : a.maxPo ≤ 15) (hs : 16 ≤ a.blockSize)
    (ht : a.total = none) : ctor a = .ok none ∧ optionsOk a = .ok () ∧
      (∀ o, a.maxLpc = some o → encAutocorrelateAssert o = true) := by
  have h2 : metaDepthOneWritable = true := rfl
  refine ⟨?_, ?_, fun o ho => decide_eq_true (hl o ho).2⟩
  · -- the guards of `ctor` in order: depth, declared total (none), rate, channels, total (none), 1-bit depth
    have e1 : (a.bps == 0 || decide (a.bps > 32)) = false := by simp; omega
    have hd : declaredFrames a = .ok none := by rw [declaredFrames, ht]
    have e2 : ¬ a.rate ≥ encRateLimit := Nat.not_le.mpr hr
    have e3 : (decide (a.channels < encMinChannels) || decide (a.channels > encMaxChannels)) = false := by
      simp [encMinChannels, encMaxChannels]; omega
    simp only [ctor, e1, hd, e2, e3, h2, Bool.false_eq_true, if_false, Bool.not_true, Bool.and_false]
  · -- the guards of `optionsOk` in order: block size, LPC order, partition order
    have e1 : ¬ a.blockSize < optMinBlockSize := Nat.not_lt.mpr hs
    have e3 : ¬ a.maxPo > optMaxPartitionOrder := Nat.not_lt.mpr hp
    unfold optionsOk
    rw [if_neg e1]
    cases hm : a.maxLpc with
    | none => simp only [Bool.false_eq_true, if_false, if_neg e3]
    | some o =>
      have := hl o hm
      have h0 : (o == 0) = false := by simp; omega
      have h1 : ¬ o > optMaxLpcOrder := Nat.not_lt.mpr this.2
      simp only [h0, decide_eq_false h1, Bool.or_self, Bool.false_eq_true, if_false, if_neg e3]

/-- **declared_length_contract**: with a declared total `t`, any block sequence whose running sum
    crosses `t` is refused at the block that crosses; one that ends short of `t` is refused at
    finalize; one that ends exactly at `t` succeeds -/
theorem declared_length_contract (t : Nat) (lens : List Nat) (w : Nat) (hw : w ≤ t) :
    (w + lens.sum = t → lengthRun (some t) w lens = .ok t)
    ∧ (w + lens.sum < t → lengthRun (some t) w lens = .error (.err "SampleCountMismatch"))
    ∧ (w + lens.sum > t → lengthRun (some t) w lens = .error (.err "ExcessiveTotalSamples")) := by
  induction lens generalizing w with
  | nil =>
    rw [List.sum_nil, Nat.add_zero, lengthRun]
    exact ⟨fun h => by rw [h, bne_self_eq_false]; rfl, fun h => if_pos (bne_iff_ne.mpr (Nat.ne_of_gt h)),
      fun h => absurd hw (Nat.not_le_of_gt h)⟩
  | cons l ls ih =>
    rw [List.sum_cons, ← Nat.add_assoc, lengthRun]
    by_cases hx : w + l > t
    · -- the block that crosses `t` is refused, whatever follows
      have hgt : w + l + ls.sum > t := Nat.lt_of_lt_of_le hx (Nat.le_add_right ..)
      rw [if_pos hx]
      exact ⟨fun h => absurd h (Nat.ne_of_gt hgt), fun h => absurd h (Nat.lt_asymm hgt), fun _ => rfl⟩
    · rw [if_neg hx]
      exact ih (w + l) (Nat.le_of_not_gt hx)

/-- with no declared total the final count is recorded (and an empty stream is refused) -/
theorem undeclared_records_count (lens : List Nat) (w : Nat) (h0 : 0 < w + lens.sum) (hmax : w + lens.sum < encMaxSamples) :
    lengthRun none w lens = .ok (w + lens.sum) := by
  induction lens generalizing w with
  | nil =>
    rw [List.sum_nil, Nat.add_zero] at h0 hmax ⊢
    rw [lengthRun, if_neg (by simpa using Nat.ne_of_gt h0), if_pos hmax]
  | cons l ls ih =>
    rw [List.sum_cons, ← Nat.add_assoc] at h0 hmax ⊢
    exact ih (w + l) h0 hmax

/-- non-vacuity: the extremes the property names -/
example : (match ctor { fe := .sample, rate := 1048575, bps := 1, channels := 8, total := none, blockSize := 16, maxLpc := some 32, maxPo := 15 } with
      | .ok none => true | _ => false) = true
    ∧ (match ctor { fe := .byte, rate := 44100, bps := 16, channels := 0, total := some 40, blockSize := 16, maxLpc := none, maxPo := 0 } with
      | .error (.err _) => true | _ => false) = true := by decide

end Flac.C15
