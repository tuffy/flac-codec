/-
  Props/C06b.lean — closing the loop between C09 and C06: the seek table that `finalize` writes (whatever interval policy,
  whatever of the three layout cases applies) is truthful in the sense C06's seek theorems assume (`TableTruthful`),
  for every sequence of frames of non-zero size.  So seeking is exact on every file the crate itself wrote.
-/
import FlacModel.Props.C06
import FlacModel.Props.C09

namespace Flac.C06
open Flac Flac.C07 Flac.C09

/-- the frames of a file as the readers see them: byte offsets are the running sum of the frame sizes -/
def mkFrames : Nat → List (List (List Int) × Nat) → List FrameInfo
  | _, [] => []
  | b, (c, n) :: r => { off := b, chans := c } :: mkFrames (b + n) r

/-- what the encoder's recorder is told about the same frames: (length in samples, size in bytes) -/
def recInput (fr : List (List (List Int) × Nat)) : List (Nat × Nat) := fr.map fun f => ((f.1.headD []).length, f.2)

theorem mkFrames_append (b : Nat) (a c : List (List (List Int) × Nat)) :
    mkFrames b (a ++ c) = mkFrames b a ++ mkFrames (b + (a.map (·.2)).sum) c := by
  induction a generalizing b with
  | nil => rfl
  | cons x a ih => rw [List.cons_append, mkFrames, ih, List.map_cons, List.sum_cons, Nat.add_assoc]; rfl

theorem mkFrames_off_lt (b : Nat) (a : List (List (List Int) × Nat)) (hpos : ∀ f ∈ a, 0 < f.2) :
    ∀ g ∈ mkFrames b a, g.off < b + (a.map (·.2)).sum := by
  induction a generalizing b with
  | nil => exact fun g hg => (List.not_mem_nil hg).elim
  | cons x a ih =>
    intro g hg
    rw [List.map_cons, List.sum_cons]
    rcases List.mem_cons.mp hg with rfl | hg
    · exact Nat.lt_add_of_pos_right (Nat.add_pos_left (hpos x (List.mem_cons_self ..)) _)
    · exact Nat.add_assoc .. ▸ ih (b + x.2) (fun f hf => hpos f (List.mem_cons_of_mem x hf)) g hg

theorem recInput_snd (a : List (List (List Int) × Nat)) : (recInput a).map (·.2) = a.map (·.2) := by
  simp [recInput, List.map_map, Function.comp]

theorem recInput_fst (a : List (List (List Int) × Nat)) : (recInput a).map (·.1) = a.map (fun f => (f.1.headD []).length) := by
  simp [recInput, List.map_map, Function.comp]

theorem lens_mkFrames (b : Nat) (a : List (List (List Int) × Nat)) :
    lens (mkFrames b a) = (a.map fun f => (f.1.headD []).length).sum := by
  induction a generalizing b with
  | nil => rfl
  | cons x a ih => rw [mkFrames, lens_cons, ih]; rfl

/-- a defined seek point that came out of the interval filter names a real frame of the file -/
theorem filtered_point_truthful (iv : Interval) (rate : Nat) (fr : List (List (List Int) × Nat)) (hpos : ∀ f ∈ fr, 0 < f.2)
    (p : EncPoint) (hp : p ∈ iv.filter rate (record Recorder.init (recInput fr)).points) :
    ∃ pre g post, mkFrames 0 fr = pre ++ g :: post ∧ (∀ f ∈ pre, f.off ≠ p.byte) ∧ g.off = p.byte ∧ lens pre = p.sample := by
  obtain ⟨pre, f, post, e1, e2, e3, _⟩ := written_points_truthful iv rate (recInput fr) p hp
  obtain ⟨preF, _, rfl, hpre, hf⟩ := List.map_eq_append_iff.mp e1
  obtain rfl : recInput preF = pre := hpre
  obtain ⟨⟨gc, gn⟩, postF, rfl, -, -⟩ := List.map_eq_cons_iff.mp hf
  rw [recInput_snd] at e3
  refine ⟨mkFrames 0 preF, ⟨p.byte, gc⟩, mkFrames (p.byte + gn) postF, ?_, fun x hx => ?_, rfl, ?_⟩
  · rw [mkFrames_append, mkFrames, Nat.zero_add, e3]
  · have := mkFrames_off_lt 0 preF (fun y hy => hpos y (List.mem_append_left _ hy)) x hx
    rw [Nat.zero_add, ← e3] at this
    exact Nat.ne_of_lt this
  · rw [lens_mkFrames, e2, recInput_fst]

/-- **The table `finalize` writes is truthful** - in all three layout cases (placeholder table filled in, table carved out
    of the padding, no table), for every interval policy and every sequence of frames of non-zero byte size: every defined
    point names the first sample and the byte offset of a real frame.  This is the hypothesis `TableTruthful` of
    `seek_lands` / `seek_refines_cursor` / `chan_seek_lands`. -/
theorem finalize_table_truthful (iv : Option Interval) (rate : Nat) (fr : List (List (List Int) × Nat)) (hpos : ∀ f ∈ fr, 0 < f.2)
    (tablePoints padding : Option Nat) (ch bps : Nat) (total : Option Nat) :
    TableTruthful { ch := ch, bps := bps, total := total, frames := mkFrames 0 fr,
                    table := (finalizeLayout iv rate (record Recorder.init (recInput fr)).points tablePoints padding).1 } := by
  intro pts hpts so bo fsz hmem
  obtain ⟨iv', p, hp, rfl, rfl⟩ := finalizeLayout_defined iv rate _ tablePoints padding pts hpts so bo fsz hmem
  exact filtered_point_truthful iv' rate fr hpos p hp

end Flac.C06
