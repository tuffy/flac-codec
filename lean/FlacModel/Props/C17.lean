/-
  Props/C17.lean — C17: parsed frame structures re-serialise identically and agree with the decoder.
  The structural parser (stream.rs) and the streaming decoder (decode.rs) are modelled by ONE parser
  skeleton (`Model/Frame.lean`) instantiated with the partition layout rule extracted from each file
  (`structLayout`, `decLayout`); sample expansion is the same `decodeSub` in both.
  Here: the two rules are one function, and a well-formed subframe expands to exactly block-size samples because the
  sizes a layout hands out add up to `block size − order`.  The frame-level statements are in Props/C17b.lean.
  `layouts_agree` restates `structLayout_eq_decLayout` (Proofs/Layout.lean) pointwise under the property's name; proofs use
  the Proofs/ name.
-/
import FlacModel.Proofs.Layout
import FlacModel.Props.C04
import FlacModel.Proofs.Codec

namespace Flac.C17
open Flac Gen

/-- **layouts_agree**: for every block size, predictor order and partition order the two parsers
    slice the residuals identically, and refuse exactly the same partition orders -/
theorem layouts_agree (bs order po : Nat) : structLayout bs order po = decLayout bs order po := by
  rw [structLayout_eq_decLayout]

/-- a well-formed subframe expands to exactly block-size samples, under any layout rule whose sizes add up (`LayoutSums`:
    `rfcLayout_sum`, `decLayout_sum`, `structLayout_sum`) -/
theorem decodeSub_length {layout : Layout} (hl : LayoutSums layout) {p : Profile} {w bs bps : Nat} {s : Subframe} {xs : List Int}
    (wf : subWf layout bs bps s) (hd : decodeSub p w bs s = .ok xs) : xs.length = bs := by
  obtain ⟨_, wb⟩ := wf
  obtain ⟨ys, hy, hd⟩ := res_bind_ok_iff.mp (decodeSub_eq p w bs s ▸ hd)
  -- shifting the wasted bits back in keeps the length
  have hlen : xs.length = ys.length := by
    split at hd
    · exact mapM'_length _ ys xs hd
    · cases hd; rfl
  rw [hlen]
  -- the body, by its kind: well-formedness fixes every length
  cases hb : s.body with
  | constant v => rw [hb] at hy; cases hy; exact List.length_replicate
  | verbatim xs => rw [hb] at wb hy; cases hy; exact wb.1
  | fixed o warm res =>
    rw [hb] at wb hy
    obtain ⟨_, _, hwarm, _, hres⟩ := wb
    have := resWf_length hl hres
    rw [predictGo_length hy, List.length_reverse, hwarm]; omega
  | lpc o warm _ sh c res =>
    rw [hb] at wb hy
    obtain ⟨_, _, _, hwarm, _, _, _, _, _, _, hres⟩ := wb
    have := resWf_length hl hres
    rw [predictGo_length hy, List.length_reverse, hwarm]; omega

/-- **struct_expand_len**: every subframe the structural parser accepts (its partition rule being the
    RFC's) expands to exactly block-size samples -/
theorem struct_expand_len (p : Profile) (w bs bps : Nat) (b : Bits) (s : Subframe) (r : Bits) (xs : List Int)
    (hp : readSubframe structLayout false bs bps b = .ok (s, r)) (hd : decodeSub p w bs s = .ok xs) :
    xs.length = bs :=
  decodeSub_length structLayout_sum (readSubframe_sound structLayout_sum.fits hp).1 hd

end Flac.C17
