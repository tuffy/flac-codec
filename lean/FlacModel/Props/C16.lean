/-
  Props/C16.lean — C16: raw frame streams are self-describing; the stream reader fabricates no frame.  Model: `Model/StreamReader.lean`.
  Two facts about one `read()` carry the file.  Every candidate it tries is a suffix of the one before, so what it returns was decoded
  from a suffix of its input that begins with a sync code (`stream_no_fabrication`).  Bytes without the sync pattern only cost fuel
  (`read_skip_noSync`), so a frame behind them is returned as it decodes on its own (`read_frame`, `no_sync_no_loss`), and a stream of
  such frames is read back by iterating that (`clean_stream_reads_all`).  The last section is the writer's side: a frame that is
  well-formed without STREAMINFO decodes on its own (`written_frame_standalone`, from `decodeFrame_serialize`), and a stream of
  such frames reads back (`written_stream_reads_back`).
-/
import FlacModel.Model.StreamReader
import FlacModel.Proofs.Local
import FlacModel.Proofs.Sync
import FlacModel.Proofs.Codec
import FlacModel.Proofs.FrameInv

namespace Flac.C16
open Flac

theorem skipUntilFF_suffix {bytes : List Nat} {b : Nat} {r : List Nat} (h : skipUntilFF bytes = b :: r) :
    255 :: b :: r <:+ bytes := by
  fun_induction skipUntilFF bytes with
  | case1 => cases h
  | case2 x xs hx => rw [h, ← beq_iff_eq.mp hx]; exact List.suffix_refl _
  | case3 x xs hx ih => exact (ih h).trans (List.suffix_cons ..)

/-- **No fabrication.** For *arbitrary* input bytes, every frame one `read()` returns is the decoding
    (by `decodeFrame`, i.e. valid sync, CRC-8-valid subset header, every subframe parsed, valid
    CRC-16) of a contiguous range of the input that starts at a `0xFF` followed by `F8|F9`, and the
    unconsumed rest is exactly what follows that range. -/
theorem stream_no_fabrication (p : Profile) (fuel : Nat) (bytes : List Nat) (d : Decoded) (rest : List Nat)
    (h : streamReadOne p fuel bytes = (.frame d, rest)) :
    ∃ pre b r, bytes = pre ++ 255 :: b :: r ∧ b / 2 = 124 ∧
      decodeFrame p none (255 :: b :: r) = .ok d ∧ rest = (b :: r).drop (d.used - 1) := by
  -- the candidate is a suffix of the input: each turn of the scan continues on a suffix of what `skip_until` left
  suffices ∃ b r, 255 :: b :: r <:+ bytes ∧ b / 2 = 124 ∧
      decodeFrame p none (255 :: b :: r) = .ok d ∧ rest = (b :: r).drop (d.used - 1) by
    obtain ⟨b, r, ⟨pre, hpre⟩, h'⟩ := this
    exact ⟨pre, b, r, hpre.symm, h'⟩
  induction fuel generalizing bytes with
  | zero => cases h
  | succ fuel ih =>
    rw [streamReadOne] at h
    split at h
    · cases h
    · rename_i b r hs
      have hsuf : b :: r <:+ bytes := (List.suffix_cons ..).trans (skipUntilFF_suffix hs)
      split at h
      · -- not a sync code: continue on `b :: r`
        obtain ⟨b', r', hs', h'⟩ := ih _ h
        exact ⟨b', r', hs'.trans hsuf, h'⟩
      · rename_i hb
        split at h
        · -- header failed: continue after the consumed bytes
          obtain ⟨b', r', hs', h'⟩ := ih _ h
          exact ⟨b', r', hs'.trans ((List.drop_suffix ..).trans hsuf), h'⟩
        · -- header parsed: of the three outcomes of the decode only success returns a frame, the candidate's
          split at h
          · cases h; exact ⟨b, r, skipUntilFF_suffix hs, by simpa using hb, ‹_›, rfl⟩
          · cases h
          · cases h

/-- results come out in increasing offset order: every call that returns a frame consumes at
    least the sync byte, so the rest handed to the next call is a strictly shorter suffix -/
theorem stream_results_ascending (p : Profile) (fuel : Nat) (bytes : List Nat) (d : Decoded) (rest : List Nat)
    (h : streamReadOne p fuel bytes = (.frame d, rest)) : rest.length < bytes.length := by
  obtain ⟨pre, b, r, rfl, _, _, rfl⟩ := stream_no_fabrication p fuel bytes d rest h
  simp only [List.length_append, List.length_cons, List.length_drop]
  omega

theorem subsetHeader_of_decode (p : Profile) (bytes : List Nat) (d : Decoded)
    (h : decodeFrame p none bytes = .ok d) : ∃ x, subsetHeader bytes = .ok x := by
  obtain ⟨n, hn⟩ := decodeFrame_header h
  exact ⟨(d.hdr, n), by simp only [subsetHeader, hn, if_true]⟩

/-- a frame at the front of the input is what one `read()` returns, and it leaves what follows the frame -/
theorem read_frame (p : Profile) (fuel : Nat) (b : Nat) (t rest : List Nat) (d : Decoded) (hb : b / 2 = 124)
    (hd : decodeFrame p none (255 :: b :: (t ++ rest)) = .ok d) (hu : d.used = t.length + 2) :
    streamReadOne p (fuel + 1) (255 :: b :: (t ++ rest)) = (.frame d, rest) := by
  obtain ⟨x, hx⟩ := subsetHeader_of_decode p _ d hd
  -- behind the `0xFF` the frame has `d.used - 1 = (b :: t).length` more bytes
  have hrest : (b :: (t ++ rest)).drop (d.used - 1) = rest := by
    rw [hu, ← List.cons_append]; exact List.drop_left' rfl
  simp only [streamReadOne, skipUntilFF, beq_self_eq_true, if_true, hb, bne_self_eq_false, Bool.false_eq_true, if_false, hx, hd, hrest]

/-- non-vacuity of `hd` and `hu`: the one-sample frame (mono 16-bit, value 0: a CONSTANT subframe) decodes on its own using all
    of its 12 bytes -/
example : (match decodeFrame .release none [255, 248, 105, 8, 0, 0, 29, 0, 0, 0, 160, 39] with
    | .ok d => d.used == 12 && d.channels == [[0]] | .error _ => false) = true := by
  decide +kernel

/-! ### No loss: garbage without the sync pattern costs no frame

`noSync g`: no `0xFF` in `g` is followed (inside `g`) by `F8|F9`.  A trailing `0xFF` is allowed - the
byte after it is the frame's own `0xFF`, which is not `F8|F9`. -/

def noSync : List Nat → Bool
  | a :: b :: r => !(a == 255 && b / 2 == 124) && noSync (b :: r)
  | _ => true

theorem noSync_cons (a : Nat) (g : List Nat) :
    noSync (a :: g) = true ↔ (a = 255 → ∀ y ∈ g.head?, y / 2 ≠ 124) ∧ noSync g = true := by
  cases g with
  | nil => simp [noSync]
  | cons c g => rw [noSync, Bool.and_eq_true]; exact and_congr_left' (by simp; omega)

theorem read_skip_nonFF (p : Profile) (fuel : Nat) (a : Nat) (x : List Nat) (ha : a ≠ 255) :
    streamReadOne p (fuel + 1) (a :: x) = streamReadOne p (fuel + 1) x := by
  simp only [streamReadOne, skipUntilFF, if_neg (by simpa using ha : ¬ (a == 255) = true)]

/-- a `0xFF` that no `F8|F9` follows costs one unit of fuel -/
theorem read_skip_lone_ff (p : Profile) (fuel : Nat) (z : List Nat) (hz : ∀ y ∈ z.head?, y / 2 ≠ 124) :
    streamReadOne p (fuel + 1) (255 :: z) = streamReadOne p fuel z := by
  cases z with
  | nil => cases fuel <;> rfl
  | cons y z => simp [streamReadOne, skipUntilFF, hz y rfl]

/-- bytes without the sync pattern are skipped; what follows them must not begin with `F8|F9`, which would complete a trailing `0xFF` -/
theorem read_skip_noSync (p : Profile) (g x : List Nat) (hg : noSync g = true) (hx : ∀ y ∈ x.head?, y / 2 ≠ 124)
    (fuel : Nat) (hfuel : g.length < fuel) : ∃ k, streamReadOne p fuel (g ++ x) = streamReadOne p (k + 1) x := by
  induction g generalizing fuel with
  | nil => obtain ⟨k, rfl⟩ := Nat.exists_eq_add_one.mpr hfuel; exact ⟨k, rfl⟩
  | cons a g ih =>
    obtain ⟨k, rfl⟩ := Nat.exists_eq_add_one.mpr (Nat.zero_lt_of_lt hfuel)
    obtain ⟨hnext, hg⟩ := (noSync_cons a g).mp hg
    have hk : g.length < k := by simpa using hfuel
    by_cases ha : a = 255
    · rw [ha, List.cons_append, read_skip_lone_ff p k _ (by cases g with | nil => exact hx | cons _ _ => exact hnext ha)]
      exact ih hg k hk
    · rw [List.cons_append, read_skip_nonFF p k a _ ha]
      exact ih hg (k + 1) (Nat.lt_succ_of_lt hk)

/-- a frame that decodes on its own (from its header alone: no STREAMINFO) using all of its bytes -/
structure Standalone (p : Profile) (f : List Nat) (d : Decoded) : Prop where
  bytes : ∀ x ∈ f, x < 256
  decodes : decodeFrame p none f = .ok d
  used : d.used = f.length

/-- **No loss.**  Garbage that does not contain the sync pattern - it may contain `0xFF` bytes, even as
    its last byte - costs no frame: one `read()` over `garbage ++ frame ++ anything` returns exactly
    that frame, decoded as it decodes on its own, and leaves exactly `anything`. -/
theorem no_sync_no_loss (p : Profile) (g f rest : List Nat) (d : Decoded) (hg : noSync g = true)
    (hf : Standalone p f d) (fuel : Nat) (hfuel : g.length < fuel) :
    streamReadOne p fuel (g ++ f ++ rest) = (.frame d, rest) := by
  obtain ⟨b, t, rfl, hb⟩ := decodeFrame_sync p none f hf.bytes d hf.decodes
  obtain ⟨k, hk⟩ := read_skip_noSync p g (255 :: b :: t ++ rest) hg (by simp) fuel hfuel
  rw [List.append_assoc, hk]
  exact read_frame p k b t rest d hb (decodeFrame_ext p none _ d hf.decodes rest) hf.used

/-- scanning bytes without the sync pattern and with nothing behind them ends the stream -/
theorem tail_noSync_eof (p : Profile) (g : List Nat) (hg : noSync g = true) (fuel : Nat) (hfuel : g.length < fuel) :
    streamReadOne p fuel g = (.fail .eof, []) := by
  obtain ⟨k, hk⟩ := read_skip_noSync p g [] hg nofun fuel hfuel
  rw [List.append_nil] at hk
  exact hk.trans rfl

/-- the byte stream: before each frame some bytes without the sync pattern -/
def wire : List (List Nat × List Nat × Decoded) → List Nat
  | [] => []
  | (g, f, _) :: r => g ++ f ++ wire r

/-- **Every written frame comes back, in order, exactly.**  A sequence of standalone frames - each with its
    own parameters: nothing relates one `Decoded` to the next - with sync-free bytes before, between and
    after them is read back by repeated `read()` as exactly those frames, in order, then end of stream. -/
theorem clean_stream_reads_all (p : Profile) (items : List (List Nat × List Nat × Decoded)) (tail : List Nat)
    (h : ∀ it ∈ items, noSync it.1 = true ∧ Standalone p it.2.1 it.2.2)
    (ht : noSync tail = true) (limit : Nat) (hl : items.length < limit) :
    streamReadAll p limit (wire items ++ tail) = items.map (fun it => ReadResult.frame it.2.2) ++ [.fail .eof] := by
  induction items generalizing limit with
  | nil =>
    obtain ⟨k, rfl⟩ := Nat.exists_eq_add_one.mpr hl
    simp only [wire, List.nil_append, streamReadAll, tail_noSync_eof p tail ht _ (Nat.lt_succ_self _), List.map_nil]
  | cons it items ih =>
    obtain ⟨g, f, d⟩ := it
    obtain ⟨k, rfl⟩ := Nat.exists_eq_add_one.mpr (Nat.zero_lt_of_lt hl)
    obtain ⟨hg, hf⟩ := h (g, f, d) List.mem_cons_self
    have hr := no_sync_no_loss p g f (wire items ++ tail) d hg hf ((g ++ f ++ (wire items ++ tail)).length + 1)
      (by simp only [List.length_append]; omega)
    rw [wire, List.append_assoc (g ++ f)]
    simp only [streamReadAll, hr, List.map_cons, List.cons_append]
    exact congrArg _ (ih (fun it hit => h it (List.mem_cons_of_mem _ hit)) k (Nat.lt_of_succ_lt_succ hl))

/-- garbage ending in a lone `0xFF` is `noSync`, and the one-sample frame above consists of bytes (with its decoding above: it is
    `Standalone`) -/
example : noSync [1, 255, 3, 255] = true ∧ (∀ x ∈ [255, 248, 105, 8, 0, 0, 29, 0, 0, 0, 160, 39], x < 256) := by
  decide

/-! ### written frames are self-describing -/

/-- **Every frame that can be written without reference to STREAMINFO decodes from its own header alone**:
    a frame that is well-formed with no STREAMINFO context (`FrameWf none`: no header code refers to it - what
    `FrameHeader::write_subset` enforces) is `Standalone`: the bytes decode, with `si = none`, to its header and
    samples, using all of them. -/
theorem written_frame_standalone (p : Profile) (f : Frame) (xss out : List (List Int)) (w : FrameWf none f)
    (hx : subsDecode p f.hdr.assign f.hdr.blockSize f.hdr.bps f.subs xss 0)
    (hr : recorrelate p f.hdr.assign f.hdr.bps xss = .ok out) :
    Standalone p f.serialize { hdr := f.hdr, channels := out, used := f.serialize.length } :=
  { bytes := serialize_bytes_lt f
    decodes := Flac.decodeFrame_serialize p none f xss out w hx hr
    -- not `rfl`: comparing the projection with `List.length _` makes the unifier unfold `Frame.serialize` to the bottom
    used := by dsimp only }

/-- **A clean concatenation reads back frame by frame, whatever changes between frames.**  Any sequence of
    well-formed frames - each with its own rate, channel assignment, depth and length: the hypotheses relate
    nothing across frames - with bytes free of the sync pattern before, between and after them, is returned by
    repeated `read()` as exactly those frames' headers and samples, in order, followed by end of stream. -/
theorem written_stream_reads_back (p : Profile)
    (items : List (List Nat × Frame × List (List Int) × List (List Int))) (tail : List Nat)
    (h : ∀ it ∈ items, noSync it.1 = true ∧ FrameWf none it.2.1
      ∧ subsDecode p it.2.1.hdr.assign it.2.1.hdr.blockSize it.2.1.hdr.bps it.2.1.subs it.2.2.1 0
      ∧ recorrelate p it.2.1.hdr.assign it.2.1.hdr.bps it.2.2.1 = .ok it.2.2.2)
    (ht : noSync tail = true) (limit : Nat) (hl : items.length < limit) :
    streamReadAll p limit
        (wire (items.map fun it => (it.1, it.2.1.serialize,
          ({ hdr := it.2.1.hdr, channels := it.2.2.2, used := it.2.1.serialize.length } : Decoded))) ++ tail)
      = items.map (fun it => ReadResult.frame { hdr := it.2.1.hdr, channels := it.2.2.2, used := it.2.1.serialize.length })
          ++ [.fail .eof] := by
  have := clean_stream_reads_all p
    (items.map fun it => (it.1, it.2.1.serialize,
      ({ hdr := it.2.1.hdr, channels := it.2.2.2, used := it.2.1.serialize.length } : Decoded))) tail
    (by
      intro it hit
      obtain ⟨src, hsrc, rfl⟩ := List.mem_map.mp hit
      obtain ⟨h1, h2, h3, h4⟩ := h src hsrc
      exact ⟨h1, written_frame_standalone p src.2.1 src.2.2.1 src.2.2.2 h2 h3 h4⟩)
    ht limit (by simpa using hl)
  rw [this, List.map_map]
  rfl

end Flac.C16
