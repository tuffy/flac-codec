/-
  Props/C03.lean — C03: the decoder follows RFC 9639 on every valid stream.
  Each theorem equates a piece of the crate's machine arithmetic (kernels regenerated from
  decode.rs, `Model/Decode.lean`) with the exact arithmetic of the specification
  (`Spec/Rfc.lean`) under the only hypothesis a valid stream provides: the values the format
  defines fit their declared width.  They hold in BOTH build profiles.
  That a kernel returns its exact result whenever that result fits (`predictStep32_ok`, `decLeftSide_ok`,
  `midSide32_ok`, …; Proofs/DecodeFacts.lean) is shared with the round trip C01; what is
  said here is that those exact results are the RFC's formulas.
  `wrap_add_correct`, `unfold_is_zigzag`, `leftside_refines_spec`, `sideright_refines_spec` and `decLayout_eq_rfc` /
  `decLayout_sound` restate lemmas of Proofs/ (`predictStep32_ok`, `unfoldRice_of_lt`, `decLeftSide_ok`, `decSideRight_ok`,
  `decLayout_eq_rfcLayout`) under the property's name; proofs use the Proofs/ name.
-/
import FlacModel.Model.Decode
import FlacModel.Spec.Rfc
import FlacModel.Proofs.Machine
import FlacModel.Proofs.DecodeFacts
import FlacModel.Proofs.Layout
import FlacModel.Model.Md5

namespace Flac.C03
open Flac Gen

theorem dot_eq_spec (xs cs : List Int) : Flac.dot xs cs = Spec.dot xs cs := by
  induction xs generalizing cs with
  | nil => cases cs <;> rfl
  | cons x xs ih => cases cs with
    | nil => rfl
    | cons c cs => rw [Flac.dot, Spec.dot, ih]

/-- **wrap_add_correct**: the decoder's `residual + (prediction as i32)` gives the sample the RFC
    defines whenever THAT SAMPLE fits 32 bits, even if the prediction alone does not (32-bit audio with large
    coefficients); this is `predictStep32_ok`, where the reason is given. -/
theorem wrap_add_correct (p : Profile) (r sum : Int) (shift : Nat) (hs : shift < 64)
    (hsum : fitsS 64 sum = true) (hfit : fitsS 32 (r + sum / 2 ^ shift) = true) :
    predictStep p 32 r sum shift = .ok (r + sum / 2 ^ shift) :=
  predictStep32_ok p r sum shift hs hsum hfit

/-- non-vacuity of `wrap_add_correct` at a witness on which an overflow-checked sum would trap:
    32-bit warm-up 2³¹−1, coefficient 2, residual −(2³¹−1): the prediction 2³²−2 does not fit,
    the reconstructed sample 2³¹−1 does -/
example : predictStep .debug 32 (-2147483647) (2 * 2147483647) 0 = .ok 2147483647
    ∧ fitsS 32 (2 * 2147483647 : Int) = false := by
  refine ⟨wrap_add_correct .debug _ _ 0 (by decide) (by decide) (by decide), by decide⟩

theorem mem_restore_of_mem_hist {coefs : List Int} {shift : Nat} (rs : List Int) {hist : List Int} {y : Int} (hy : y ∈ hist) :
    y ∈ Spec.restore coefs shift hist rs := by
  induction rs generalizing hist with
  | nil => simpa [Spec.restore] using hy
  | cons r rs ih => exact ih (List.mem_cons_of_mem _ hy)

/-- **predict_refines_spec**: the whole prediction loop reproduces the specification's exact
    reconstruction whenever every reconstructed sample fits 32 bits (coefficients ≤ 16 bits and at
    most 32 taps, as the format allows) -/
theorem predict_refines_spec (p : Profile) (coefs : List Int) (shift : Nat) (hs : shift < 64)
    (hc : ∀ c ∈ coefs, fitsS 16 c = true) (hl : coefs.length ≤ 32)
    (rs hist : List Int) (hfit : ∀ x ∈ Spec.restore coefs shift hist rs, fitsS 32 x = true) :
    predictGo p 32 coefs shift hist rs = .ok (Spec.restore coefs shift hist rs) := by
  induction rs generalizing hist with
  | nil => rfl
  | cons r rs ih =>
    -- the history and the next sample are among the reconstructed samples, so they fit; hence the sum fits `i64`
    have hh : ∀ y ∈ hist, fitsS 32 y = true := fun y hy => hfit y (mem_restore_of_mem_hist _ hy)
    have hx : fitsS 32 (r + Spec.dot hist coefs / 2 ^ shift) = true :=
      hfit _ (mem_restore_of_mem_hist rs (List.mem_cons_self ..))
    have hsum : fitsS 64 (Spec.dot hist coefs) = true := dot_eq_spec .. ▸ dot_fits64 hist coefs hh hc hl
    simp only [predictGo, Spec.restore, dot_eq_spec, predictStep32_ok p r _ shift hs hsum hx]
    exact ih _ hfit

/-- **unfold_is_zigzag**: the crate's `(msb << k) | lsb` in `u32` followed by its sign un-folding
    is the RFC's zig-zag inverse of `msb·2^k + lsb` whenever that folded value fits 32 bits, which
    the RFC's residual range guarantees -/
theorem unfold_is_zigzag (k msb lsb : Nat) (hl : lsb < 2 ^ k) (hfit : msb * 2 ^ k + lsb < 4294967296) :
    unfoldRice k msb lsb = (if (msb * 2 ^ k + lsb) % 2 = 1 then -(((msb * 2 ^ k + lsb) / 2 : Nat) : Int) - 1
                            else (((msb * 2 ^ k + lsb) / 2 : Nat) : Int)) := by
  rw [unfoldRice_of_lt k msb lsb hfit]
  simp only [beq_iff_eq]

/-- `decLayout_eq_rfcLayout` (Proofs/Layout.lean) from the RFC's side… -/
theorem decLayout_eq_rfc (bs order po : Nat) (sizes : List Nat)
    (h : Spec.rfcLayout bs order po = .ok sizes) : decLayout bs order po = .ok sizes := by
  rw [decLayout_eq_rfcLayout]; exact h

/-- …and from the decoder's (`read_block` enforces the RFC's partition-order rule): whatever the decoder's layout
    accepts, the RFC accepts, with the same partition sizes -/
theorem decLayout_sound (bs order po : Nat) (sizes : List Nat)
    (h : decLayout bs order po = .ok sizes) : Spec.rfcLayout bs order po = .ok sizes := by
  rw [← decLayout_eq_rfcLayout]; exact h

/-! ### stereo reconstruction = RFC formulas when the outputs fit: the 32-bit kernels, then left/side on the 33-bit path -/

theorem leftside_refines_spec (p : Profile) (l s : Int) (hout : fitsS 32 (l - s) = true) :
    decLeftSide p l s = .ok (l - s) := decLeftSide_ok p l s hout

theorem sideright_refines_spec (p : Profile) (s r : Int) (hout : fitsS 32 (s + r) = true) :
    decSideRight p s r = .ok (s + r) := decSideRight_ok p s r hout

/-- mid/side: the kernel's result (`midSide32_ok`) is the RFC's `((mid << 1) | (side & 1)) ± side) >> 1`.  The side sample
    is the difference of the two outputs, so it is within 32 bits, and not the most negative value, when they fit 31. -/
theorem midside_refines_spec (p : Profile) (m s : Int)
    (hL : fitsS 31 ((2 * m + s % 2 + s) / 2) = true) (hR : fitsS 31 ((2 * m + s % 2 - s) / 2) = true) :
    midSide32 p m s = .ok ((2 * m + s % 2 + s) / 2, (2 * m + s % 2 - s) / 2) := by
  have hs : fitsS 32 s = true ∧ -2147483648 < s := by
    rw [fitsS31_iff] at hL hR; rw [fitsS32_iff]; omega
  exact midSide32_ok p m s hs.1 hL hR hs.2

/-- the 33-bit side path: `(left as i64 − side) as i32` is the exact difference when it fits -/
theorem wide_leftside_refines_spec (p : Profile) (l s : Int) (hl : fitsS 32 l = true)
    (hs : -4294967296 ≤ s ∧ s < 4294967296) (hout : fitsS 32 (l - s) = true) :
    decLeftSideWide p l s = .ok (l - s) := by
  have hl' := (fitsS32_iff l).mp hl
  have h32 : castS 32 l = l := wrapS32_of_fits hl
  have hc : castS 64 l = l := wrapS64_of_fits (by rw [fitsS64_iff]; omega)
  have hw : wrapS 64 (l - s) = l - s := wrapS64_of_fits (by rw [fitsS64_iff]; omega)
  have ho : castS 32 (l - s) = l - s := wrapS32_of_fits hout
  simp only [decLeftSideWide, pure, Except.pure, h32, hc, hw, ho]

/-- MD5 verdict of `verify_reader` as a function of the stored digest and the decoded PCM -/
def verifyVerdict (stored : List Nat) (pcmLeBytes : List Nat) : String :=
  if stored.all (· == 0) then "NoMD5" else if Md5.md5 pcmLeBytes == stored then "MD5Match" else "MD5Mismatch"

/-- **md5_verify_iff**: a match is reported exactly when the decoded PCM hashes to the stored
    (non-zero) digest -/
theorem md5_verify_iff (stored pcm : List Nat) :
    verifyVerdict stored pcm = "MD5Match" ↔ (stored.all (· == 0) = false ∧ Md5.md5 pcm = stored) := by
  unfold verifyVerdict
  cases stored.all (· == 0) <;> by_cases h1 : Md5.md5 pcm = stored <;> simp [h1]

end Flac.C03
