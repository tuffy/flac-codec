/-
  Props/C14c.lean — C14, the provisional header: what the encoder writes before the first frame when a total is declared and a seek
  table is requested (STREAMINFO, an all-placeholder SEEKTABLE of any admissible size, optional PADDING) is a block list the reader
  accepts and reads back as written — so an encode interrupted before finalize can be opened.
-/
import FlacModel.Props.C14b
import FlacModel.Props.C11

namespace Flac.C14
open Flac Flac.Gen

theorem seekContig_placeholders (prev : Option SeekPt) (n : Nat) : seekContig prev (List.replicate n SeekPt.placeholder) = true := by
  induction n generalizing prev with
  | zero => unfold seekContig; rfl
  | succ n ih =>
    rw [List.replicate_succ]
    rcases prev with _ | _ | _ <;> exact ih _

/-- an all-placeholder table of any size a SEEKTABLE block can hold is well-formed -/
theorem placeholder_table_wf (n : Nat) (h : n ≤ seekTableMaxPoints) :
    C11.blockWf (.seektable (List.replicate n SeekPt.placeholder)) = true := by
  have h1 : (List.replicate n SeekPt.placeholder).all C11.seekPtWf = true :=
    List.all_eq_true.mpr fun p hp => List.eq_of_mem_replicate hp ▸ rfl
  simp only [C11.blockWf, h1, seekContig_placeholders, Bool.and_self, Bool.true_and, decide_eq_true_eq, List.length_replicate]
  exact h

def padBlocks : Option Nat → List Block
  | some p => [.padding p]
  | none => []

/-- **The provisional header reads back as written**, whatever follows it (frames, a cut frame, nothing). -/
theorem provisional_header_reads_back (si : Streaminfo) (hsi : C11.streaminfoWf si = true) (n : Nat) (hn : n ≤ seekTableMaxPoints)
    (pad : Option Nat) (hpad : ∀ p, pad = some p → p ≤ maxBlockSize) (out : List Nat)
    (h : writeBlocks ([.streaminfo si, .seektable (List.replicate n SeekPt.placeholder)] ++ padBlocks pad) = .ok out)
    (tail : List Nat) :
    readBlocks (out ++ tail)
      = .ok ([.streaminfo si, .seektable (List.replicate n SeekPt.placeholder)] ++ padBlocks pad, out.length) := by
  apply C11.blocklist_roundtrip _ _ out h tail
  intro b hb
  rcases List.mem_append.mp hb with hb | hb
  · rcases List.mem_cons.mp hb with rfl | hb
    · exact hsi
    · obtain rfl := List.mem_singleton.mp hb
      exact placeholder_table_wf n hn
  · cases pad with
    | none => cases hb
    | some p =>
      obtain rfl := List.mem_singleton.mp hb
      exact decide_eq_true (hpad p rfl)

end Flac.C14
