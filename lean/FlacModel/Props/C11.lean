/-
  Props/C11.lean — metadata blocks survive a write/read round trip and report their sizes.

  Per block kind: the value invariant (`…Wf`), what the writer accepts and then writes (`…_body_ok_iff` for STREAMINFO,
  SEEKTABLE, VORBIS_COMMENT and PICTURE; `cueBytes_ok_iff` of Proofs/CueCodec.lean for the cue sheet; PADDING and APPLICATION
  are always written), and the reader run on exactly those bytes (`…_roundtrip`), by one `simp only` of the shape described
  in Proofs/CueCodec.lean.
-/
import FlacModel.Proofs.CueCodec
import FlacModel.Proofs.ListAux

namespace Flac.C11
open Flac Flac.Gen

/-- `Streaminfo` as the public type holds it: field widths, a 16-byte MD5, and `md5Some` the canonical `Option` (the reader
    yields `None` exactly for sixteen zero bytes) -/
def streaminfoWf (si : Streaminfo) : Bool :=
  decide (si.minBlock < 65536) && decide (si.maxBlock < 65536) && decide (1 ≤ si.channels) && decide (1 ≤ si.bps) && decide (si.bps ≤ 32)
    && si.md5.length == 16 && bytesOk si.md5 && si.md5Some == !(si.md5.all (· == 0))

theorem streaminfoWf_iff {si : Streaminfo} : streaminfoWf si = true ↔
    si.minBlock < 2 ^ 16 ∧ si.maxBlock < 2 ^ 16 ∧ 1 ≤ si.channels ∧ 1 ≤ si.bps ∧ si.bps ≤ 32 ∧ si.md5.length = 16 ∧ bytesOk si.md5 = true
      ∧ si.md5Some = !(si.md5.all (· == 0)) := by
  simp only [streaminfoWf, Bool.and_eq_true, decide_eq_true_eq, beq_iff_eq, and_assoc, Nat.reducePow]

theorem streaminfo_body_ok_iff {si : Streaminfo} {bs : List Nat} : (Block.streaminfo si).body = .ok bs ↔
    si.minFrame < 2 ^ 24 ∧ si.maxFrame < 2 ^ 24 ∧ si.rate < 2 ^ 20 ∧ si.channels ≤ 8 ∧ si.total < 2 ^ 36 ∧ streaminfoBytes si = bs := by
  have hflag : metaDepthOneWritable = true := rfl
  simp only [Block.body, res_guard_ok_iff, hflag, Bool.not_true, Bool.false_and, Bool.false_eq_true, not_false_eq_true, true_and,
    Bool.or_eq_true, decide_eq_true_eq, not_or, Nat.not_le, Nat.not_lt, Except.ok.injEq, and_assoc, ge_iff_le, gt_iff_lt]

theorem streaminfoBytes_length {si : Streaminfo} (hw : streaminfoWf si = true) : (streaminfoBytes si).length = 34 := by
  simp only [streaminfoBytes, List.length_append, beBytes_length, apply_ite List.length, (streaminfoWf_iff.mp hw).2.2.2.2.2.1,
    List.length_replicate, ite_self]

theorem streaminfo_roundtrip (si : Streaminfo) (hw : streaminfoWf si = true) (bs : List Nat)
    (h : (Block.streaminfo si).body = .ok bs) : parseStreaminfo bs = some si := by
  obtain ⟨b1, b2, b3, b4, b5, rfl⟩ := streaminfo_body_ok_iff.mp h
  obtain ⟨a1, a2, a3, a4, a5, a6, -, a8⟩ := streaminfoWf_iff.mp hw
  -- an absent MD5 is written as sixteen zeros, which is what `md5` then holds
  have hmd : (if si.md5Some = true then si.md5 else List.replicate 16 0) = si.md5 := by
    rw [a8]
    split
    · rfl
    · rename_i hn
      simp only [Bool.not_eq_true', Bool.not_eq_false, List.all_eq_true, beq_iff_eq] at hn
      exact (List.eq_replicate_iff.mpr ⟨a6, hn⟩).symm
  have c : si.channels - 1 < 2 ^ 3 := by omega
  have d : si.bps - 1 < 2 ^ 5 := by omega
  -- the eight fields one above the other: the packed word is below 2^144, and each field comes back by peeling the ones below it
  have hpk : streaminfoPack si < 2 ^ 144 := pack_lt (pack_lt (pack_lt (pack_lt (pack_lt (pack_lt (pack_lt a1 a2) b1) b2) b3) c) d) b5
  rw [parseStreaminfo, streaminfoBytes_length hw]
  simp only [streaminfoBytes, hmd, bne_self_eq_false, Bool.false_eq_true, ↓reduceIte, List.take_left' (beBytes_length ..),
    List.drop_left' (beBytes_length ..), beNat_beBytes 18 _ hpk]
  cases si
  simp only [streaminfoPack] at *
  simp only [pack_div, pack_mod, a2, b1, b2, b3, b5, c, d, Nat.reduceSub, Nat.reduceLeDiff, Nat.pow_zero, Nat.div_one,
    Nat.sub_add_cancel a3, Nat.sub_add_cancel a4, a8]

theorem padding_roundtrip (n : Nat) : parseBody 1 (List.replicate n 0).length (List.replicate n 0) = .ok (.padding n, []) := by
  simp only [parseBody, List.length_replicate, takeBytes_all (List.length_replicate ..)]

theorem application_roundtrip (id : Nat) (d : List Nat) (hid : id < 2 ^ 32) :
    parseBody 2 (beBytes 4 id ++ d).length (beBytes 4 id ++ d) = .ok (.application id d, []) := by
  have h3 : ¬ (beBytes 4 id ++ d).length < 4 := by simp
  simp only [parseBody, takeBytes_append (beBytes_length ..), h3, ↓reduceIte, beNat_beBytes 4 id hid,
    takeBytes_all (show d.length = (beBytes 4 id ++ d).length - 4 by simp)]

def seekPtWf : SeekPt → Bool
  | .defined s b l => decide (s < 2 ^ 64 - 1) && decide (b < 2 ^ 64) && decide (l < 65536)
  | .placeholder => true

theorem seekPtBytes_length (p : SeekPt) : (seekPtBytes p).length = 18 := by
  cases p <;> simp [seekPtBytes]

theorem flatMap_seek_length (pts : List SeekPt) : (pts.flatMap seekPtBytes).length = 18 * pts.length :=
  length_flatMap_const 18 seekPtBytes pts fun p _ => seekPtBytes_length p

/-- one written seek point read back (the placeholder is recognised by its sample number alone) -/
theorem parseSeekPoints_cons (p : SeekPt) (hp : seekPtWf p = true) (n : Nat) (rest : List Nat) :
    parseSeekPoints (n + 1) (seekPtBytes p ++ rest) = p :: parseSeekPoints n rest := by
  rw [parseSeekPoints, List.drop_left' (seekPtBytes_length p)]
  congr 1
  cases p with
  | placeholder =>
    simp only [seekPtBytes, List.append_assoc, List.take_left' (beBytes_length ..), beNat_beBytes 8 (2 ^ 64 - 1) (by omega)]
    rfl
  | defined s b l =>
    simp only [seekPtWf, Bool.and_eq_true, decide_eq_true_eq] at hp
    have : (s == 18446744073709551615) = false := by simp; omega
    -- the third field lies behind two 8-byte fields
    have h16 (x : List Nat) : x.drop 16 = (x.drop 8).drop 8 := (List.drop_drop (i := 8) (j := 8)).symm
    simp only [seekPtBytes, List.append_assoc, h16, List.take_left' (beBytes_length ..), List.drop_left' (beBytes_length ..),
      beNat_beBytes 8 s (by omega), beNat_beBytes 8 b (by omega), beNat_beBytes 2 l (by omega), this, Bool.false_eq_true, ↓reduceIte]

theorem parseSeekPoints_roundtrip (pts : List SeekPt) (hw : pts.all seekPtWf = true) (rest : List Nat) :
    parseSeekPoints pts.length (pts.flatMap seekPtBytes ++ rest) = pts := by
  induction pts with
  | nil => rfl
  | cons p r ih =>
    obtain ⟨hp, hr⟩ := Bool.and_eq_true_iff.mp (List.all_cons ▸ hw)
    rw [List.length_cons, List.flatMap_cons, List.append_assoc, parseSeekPoints_cons p hp, ih hr]

theorem seektable_body_ok_iff {pts : List SeekPt} {bs : List Nat} : (Block.seektable pts).body = .ok bs ↔
    seekHasMax pts = false ∧ seekWritable pts = true ∧ pts.flatMap seekPtBytes = bs := by
  have hflag : seekMaxOffsetRefused = true := rfl
  simp only [Block.body, hflag, Bool.true_and]
  cases seekHasMax pts <;> cases seekWritable pts <;> simp

theorem seektable_roundtrip (pts : List SeekPt) (hw : pts.all seekPtWf = true) (hc : seekContig none pts = true)
    (hl : pts.length ≤ seekTableMaxPoints) :
    parseBody 3 (pts.flatMap seekPtBytes).length (pts.flatMap seekPtBytes) = .ok (.seektable pts, []) := by
  have hp := parseSeekPoints_roundtrip pts hw []
  rw [List.append_nil] at hp
  rw [flatMap_seek_length]
  simp only [parseBody, Nat.mul_mod_right, bne_self_eq_false, takeBytes_all (flatMap_seek_length pts),
    Nat.mul_div_cancel_left pts.length (show 0 < 18 by decide), hp, hc, Nat.not_lt.mpr hl, decide_false, Bool.not_true, Bool.or_self,
    Bool.false_eq_true, ↓reduceIte]

/-- one comment field as written: a literal copy of the function under `flatMap` in the VORBIS_COMMENT case of the model's writer
    (Model/Blocks.lean: `Block.body`) -/
def fieldBytes (f : List Nat) : List Nat := leBytes 4 f.length ++ f

theorem readVorbisFields_roundtrip (fs : List (List Nat)) (hw : ∀ f ∈ fs, utf8Valid f = true ∧ f.length < 2 ^ 32)
    (rest : List Nat) (fuel : Nat) (hf : fs.length ≤ fuel) :
    readVorbisFields fuel fs.length (fs.flatMap fieldBytes ++ rest) = .ok (fs, rest) := by
  induction fs generalizing fuel with
  | nil => cases fuel <;> rfl
  | cons f r ih =>
    cases fuel with
    | zero => simp at hf
    | succ fuel =>
      have hfw := hw f (by simp)
      simp only [List.length_cons, readVorbisFields, List.flatMap_cons, fieldBytes, List.append_assoc, takeBytes_append (leBytes_length ..),
        leNat_leBytes 4 _ hfw.2, takeBytes_length_append, hfw.1, ih (fun g hg => hw g (by simp [hg])) fuel (by simp at hf; omega),
        Bool.not_true, Bool.false_eq_true, ↓reduceIte]

theorem length_le_fields (fs : List (List Nat)) : fs.length ≤ (fs.flatMap fieldBytes).length :=
  length_le_length_flatMap fieldBytes fs fun f _ => by simp [fieldBytes]; omega

/-- the VORBIS_COMMENT body: a literal copy of the model's expression (Model/Blocks.lean: `Block.body`), `fieldBytes` standing for
    its lambda; `vorbis_body_ok_iff` closes by `Iff.rfl` for that reason -/
def vorbisBytes (v : List Nat) (fs : List (List Nat)) : List Nat :=
  leBytes 4 v.length ++ v ++ leBytes 4 fs.length ++ fs.flatMap fieldBytes

theorem vorbis_body_ok_iff {v : List Nat} {fs : List (List Nat)} {bs : List Nat} : (Block.vorbis v fs).body = .ok bs ↔
    v.length < 2 ^ 32 ∧ (∀ f ∈ fs, f.length < 2 ^ 32) ∧ fs.length < 2 ^ 32 ∧ vorbisBytes v fs = bs := by
  simp only [Block.body, res_guard_ok_iff, Bool.or_eq_true, decide_eq_true_eq, List.any_eq_true, not_or, not_exists, not_and, Nat.not_le,
    Except.ok.injEq, and_assoc, ge_iff_le]
  exact Iff.rfl

theorem vorbis_roundtrip (v : List Nat) (fs : List (List Nat)) (hv : utf8Valid v = true) (hvl : v.length < 2 ^ 32)
    (hw : ∀ f ∈ fs, utf8Valid f = true ∧ f.length < 2 ^ 32) (hn : fs.length < 2 ^ 32) :
    parseBody 4 (vorbisBytes v fs).length (vorbisBytes v fs) = .ok (.vorbis v fs, []) := by
  have h4 := readVorbisFields_roundtrip fs hw [] ((fs.flatMap fieldBytes).length + 1) (Nat.le_succ_of_le (length_le_fields fs))
  rw [List.append_nil] at h4
  simp only [parseBody, vorbisBytes, List.append_assoc, takeBytes_append (leBytes_length ..), leNat_leBytes 4 _ hvl, takeBytes_length_append, hv,
    leNat_leBytes 4 _ hn, h4, bne_self_eq_false, Bool.not_true, Bool.false_eq_true, ↓reduceIte]

def pictureWf (p : PictureVal) : Bool :=
  decide (p.ptype ≤ pictureTypeMax) && utf8Valid p.mime && utf8Valid p.desc && decide (p.width < 2 ^ 32) && decide (p.height < 2 ^ 32)
    && decide (p.depth < 2 ^ 32) && decide (p.colors < 2 ^ 32)

theorem pictureWf_iff {p : PictureVal} : pictureWf p = true ↔
    p.ptype ≤ pictureTypeMax ∧ utf8Valid p.mime = true ∧ utf8Valid p.desc = true ∧ p.width < 2 ^ 32 ∧ p.height < 2 ^ 32
      ∧ p.depth < 2 ^ 32 ∧ p.colors < 2 ^ 32 := by
  simp only [pictureWf, Bool.and_eq_true, decide_eq_true_eq, and_assoc]

/-- the picture type writer is the inverse of the reader on every defined code (a finite table: `decide`) -/
theorem pictureWriteCode_id (t : Nat) (h : t ≤ pictureTypeMax) : pictureWriteCode t = t := by
  have key : ∀ i : Fin 21, pictureWriteCode i.val = i.val := by decide
  have : pictureTypeMax = 20 := rfl
  exact key ⟨t, by omega⟩

/-- the PICTURE body: a literal copy of the model's expression (Model/Blocks.lean: `Block.body`); `picture_body_ok_iff` closes by
    `Iff.rfl` for that reason -/
def pictureBytes (p : PictureVal) : List Nat :=
  beBytes 4 (pictureWriteCode p.ptype) ++ beBytes 4 p.mime.length ++ p.mime ++ beBytes 4 p.desc.length ++ p.desc
    ++ beBytes 4 p.width ++ beBytes 4 p.height ++ beBytes 4 p.depth ++ beBytes 4 p.colors ++ beBytes 4 p.data.length ++ p.data

theorem picture_body_ok_iff {p : PictureVal} {bs : List Nat} : (Block.picture p).body = .ok bs ↔
    p.mime.length < 2 ^ 32 ∧ p.desc.length < 2 ^ 32 ∧ p.data.length < 2 ^ 32 ∧ pictureBytes p = bs := by
  simp only [Block.body, res_guard_ok_iff, Bool.or_eq_true, decide_eq_true_eq, not_or, Nat.not_le, Except.ok.injEq, and_assoc, ge_iff_le]
  exact Iff.rfl

theorem picture_roundtrip (p : PictureVal) (hw : pictureWf p = true) (hm : p.mime.length < 2 ^ 32) (hd : p.desc.length < 2 ^ 32)
    (hdl : p.data.length < 2 ^ 32) :
    parseBody 6 (pictureBytes p).length (pictureBytes p) = .ok (.picture p, []) := by
  obtain ⟨w1, w2, w3, w4, w5, w6, w7⟩ := pictureWf_iff.mp hw
  -- `beNat_beBytes 4` asks for `< 256 ^ 4`, which evaluates to the same numeral as `2 ^ 32`
  have ht : p.ptype < 256 ^ 4 := by have : pictureTypeMax = 20 := rfl; omega
  generalize (pictureBytes p).length = sz
  -- the five trailing numbers are read as one 20-byte field, which is then cut up four bytes at a time
  have hnums : ∀ r, takeBytes 20 (beBytes 4 p.width ++ (beBytes 4 p.height ++ (beBytes 4 p.depth ++ (beBytes 4 p.colors ++ (beBytes 4 p.data.length ++ r)))))
      = .ok (beBytes 4 p.width ++ (beBytes 4 p.height ++ (beBytes 4 p.depth ++ (beBytes 4 p.colors ++ beBytes 4 p.data.length))), r) :=
    fun r => takeBytes_ok_iff.mpr ⟨by simp only [List.append_assoc], by simp⟩
  have hcut (x : List Nat) : x.drop 8 = (x.drop 4).drop 4 ∧ x.drop 12 = ((x.drop 4).drop 4).drop 4
      ∧ x.drop 16 = (((x.drop 4).drop 4).drop 4).drop 4 := by simp only [List.drop_drop, and_self]
  simp only [parseBody, pictureBytes, pictureWriteCode_id p.ptype w1, List.append_assoc, takeBytes_append (beBytes_length ..),
    beNat_beBytes 4 _ ht, Nat.not_lt.mpr w1, beNat_beBytes 4 _ hm, takeBytes_length_append, w2, beNat_beBytes 4 _ hd, w3, hnums,
    hcut, List.take_left' (beBytes_length ..), List.drop_left' (beBytes_length ..),
    beNat_beBytes 4 _ w4, beNat_beBytes 4 _ w5, beNat_beBytes 4 _ w6, beNat_beBytes 4 _ w7, beNat_beBytes 4 _ hdl,
    takeBytes_all rfl, Bool.not_true, Bool.false_eq_true, ↓reduceIte]

/-- the value invariants the public types guarantee: field widths, UTF-8 strings, contiguous seek tables, constructible
    cue sheets -/
def blockWf : Block → Bool
  | .streaminfo si => streaminfoWf si
  | .padding n => decide (n ≤ maxBlockSize)
  | .application id _ => decide (id < 2 ^ 32)
  | .seektable pts => pts.all seekPtWf && seekContig none pts && decide (pts.length ≤ seekTableMaxPoints)
  | .vorbis v fs => utf8Valid v && fs.all utf8Valid
  | .picture p => pictureWf p
  | .cuesheet c => c.wf

/-- Writer then reader, one block body: whatever the writer produces for a well-formed value parses
    back to the same value and consumes the whole body. -/
theorem body_roundtrip (b : Block) (hw : blockWf b = true) (bs : List Nat) (h : b.body = .ok bs) :
    parseBody b.type bs.length bs = .ok (b, []) := by
  cases b with
  | streaminfo si =>
    have hl : bs.length = 34 := (streaminfo_body_ok_iff.mp h).2.2.2.2.2 ▸ streaminfoBytes_length hw
    simp only [Block.type, parseBody, takeBytes_all hl, streaminfo_roundtrip si hw bs h]
  | padding n =>
    obtain rfl := Except.ok.inj h
    exact padding_roundtrip n
  | application id d =>
    obtain rfl := Except.ok.inj h
    exact application_roundtrip id d (of_decide_eq_true hw)
  | seektable pts =>
    obtain ⟨-, -, rfl⟩ := seektable_body_ok_iff.mp h
    simp only [blockWf, Bool.and_eq_true, decide_eq_true_eq] at hw
    exact seektable_roundtrip pts hw.1.1 hw.1.2 hw.2
  | vorbis v fs =>
    obtain ⟨g1, g2, g3, rfl⟩ := vorbis_body_ok_iff.mp h
    simp only [blockWf, Bool.and_eq_true] at hw
    exact vorbis_roundtrip v fs hw.1 g1 (fun f hf => ⟨List.all_eq_true.mp hw.2 f hf, g2 f hf⟩) g3
  | picture p =>
    obtain ⟨g1, g2, g3, rfl⟩ := picture_body_ok_iff.mp h
    exact picture_roundtrip p hw g1 g2 g3
  | cuesheet c =>
    have := cue_roundtrip c hw bs h []
    rw [List.append_nil] at this
    simp only [Block.type, parseBody, this]

/-- Writer then reader, one block with its header: the reader returns the `last` flag, the value
    and exactly the bytes that follow the block. -/
theorem block_roundtrip (last : Bool) (b : Block) (hw : blockWf b = true) (out : List Nat)
    (h : writeBlock last b = .ok out) (rest : List Nat) : readBlock (out ++ rest) = .ok (last, b, rest) := by
  obtain ⟨bs, hd, n1, n2, n3, hb, rfl, hty, hlast, hlen⟩ := writeBlock_ok_cons h
  simp only [List.cons_append, readBlock, hty, hlen, hlast, Nat.not_lt.mpr b.type_le, ↓reduceIte,
    List.take_left, body_roundtrip b hw bs hb, List.drop_left,
    List.isEmpty_nil, Bool.not_true, bne_self_eq_false, Bool.or_self, Bool.false_eq_true]

/-- The size a block reports for itself is the number of body bytes the writer emits (and
    `total_size` adds the 4 header bytes). -/
theorem reported_size_eq_written (b : Block) (n : Nat) (h : b.bytes = .ok (some n)) (last : Bool) :
    ∃ out, writeBlock last b = .ok out ∧ out.length = n + 4 := by
  revert h
  fun_cases Block.bytes b <;> intro h
  case case1 bs hb =>   -- the writer yields a body
    have h := Except.ok.inj h
    split at h <;> cases h
    exact ⟨_, writeBlock_ok_iff.mpr ⟨bs, hb, ‹_›, rfl⟩, by simp only [List.length_append, List.length_cons, List.length_nil, beBytes_length]; omega⟩
  all_goals cases h

theorem rest_roundtrip (bs : List Block) (hne : bs ≠ []) (hw : ∀ b ∈ bs, blockWf b = true) (s : Seen) (out : List Nat)
    (h : writeRest s bs = .ok out) (tail : List Nat) (fuel : Nat) (hf : bs.length ≤ fuel) (used : Nat) :
    readRest fuel s (out ++ tail) used = .ok (bs, used + out.length) := by
  induction bs generalizing s out fuel used with
  | nil => exact absurd rfl hne
  | cons b r ih =>
    obtain ⟨s', x, y, hc, hx, hy, rfl⟩ := writeRest_cons_ok_iff.mp h
    obtain ⟨hb, hr⟩ := List.forall_mem_cons.mp hw
    obtain _ | fuel := fuel
    · cases hf
    have hlen : (x ++ (y ++ tail)).length - (y ++ tail).length = x.length := by rw [List.length_append, Nat.add_sub_cancel]
    simp only [readRest, List.append_assoc, block_roundtrip r.isEmpty b hb x hx (y ++ tail), hc, hlen]
    cases r with
    | nil =>
      obtain rfl := Except.ok.inj hy
      simp only [List.isEmpty_nil, ↓reduceIte, List.append_nil]
    | cons b2 r2 =>
      simp only [List.isEmpty_cons, Bool.false_eq_true, ↓reduceIte, ih (List.cons_ne_nil _ _) hr s' y hy fuel (Nat.le_of_succ_le_succ hf),
        List.length_append, Nat.add_assoc]

/-- Writer then reader, whole block lists: whenever `write_blocks` succeeds on well-formed values,
    `read_blocks` on its output (followed by anything, e.g. the audio frames) returns the same list
    and has consumed exactly the bytes written. -/
theorem blocklist_roundtrip (bl : List Block) (hw : ∀ b ∈ bl, blockWf b = true) (out : List Nat)
    (h : writeBlocks bl = .ok out) (tail : List Nat) : readBlocks (out ++ tail) = .ok (bl, out.length) := by
  obtain ⟨si, rest, x, y, rfl, hx, hy, rfl⟩ := writeBlocks_ok_iff.mp h
  obtain ⟨hb, hr⟩ := List.forall_mem_cons.mp hw
  have hlen : (x ++ (y ++ tail)).length + 4 - (y ++ tail).length = x.length + 4 := by rw [List.length_append]; omega
  simp only [readBlocks, List.cons_append, List.append_assoc, List.length_cons, Nat.add_assoc, Nat.reduceAdd,
    Nat.not_lt.mpr (Nat.le_add_left 4 _), List.take_succ_cons, List.take_zero, List.drop_succ_cons, List.drop_zero, bne_self_eq_false,
    block_roundtrip rest.isEmpty (.streaminfo si) hb x hx (y ++ tail), hlen, Bool.false_eq_true, ↓reduceIte]
  cases rest with
  | nil =>
    obtain rfl := Except.ok.inj hy
    simp only [List.isEmpty_nil, ↓reduceIte, List.append_nil]
  | cons b2 r2 =>
    have := length_le_writeRest hy
    rw [rest_roundtrip _ (List.cons_ne_nil _ _) hr {} y hy tail]
    · simp only [List.isEmpty_cons, Bool.false_eq_true, ↓reduceIte, List.length_append, Except.ok.injEq, Prod.mk.injEq, true_and]
      omega
    · simp only [List.length_append]; omega

/-- The writer never panics on values the public types admit: every failure is an error value. -/
theorem body_no_panic (b : Block) (hw : blockWf b = true) (m : String) : b.body ≠ .error (.panic m) := by
  revert hw
  -- the leaves of `Block.body`: values, `.err` refusals, the cue sheet writer, and one panic, at a 1-bit depth the generated flag rules out
  fun_cases Block.body b <;> intro hw
  case case1 hp =>   -- STREAMINFO at one bit per sample
    simp only [show metaDepthOneWritable = true from rfl, Bool.not_true, Bool.false_and, Bool.false_eq_true] at hp
  case case12 c => exact cue_no_panic c hw m   -- CUESHEET
  all_goals nofun

def isSeektable : Block → Bool | .seektable _ => true | _ => false
def isVorbis : Block → Bool | .vorbis .. => true | _ => false

/-- the `seektable` flag counts the SEEKTABLE blocks let through -/
theorem checkUnique_seek {s s' : Seen} {b : Block} (h : checkUnique s b = .ok s') :
    (if s'.seektable then 1 else 0) = (if s.seektable then 1 else 0) + (if isSeektable b then 1 else 0) := by
  revert h
  fun_cases checkUnique s b <;> intro h <;> cases h
  -- a SEEKTABLE passes only while the flag is down, and raises it; every other kind leaves the flag alone
  case case3 hs => simp only [hs, isSeektable, ↓reduceIte, Bool.false_eq_true]
  case case11 hns _ _ => cases b <;> first | rfl | exact (hns _ rfl).elim   -- the kinds without a rule
  all_goals rfl

/-- A block list with two SEEKTABLE blocks is never written: `write_blocks` returns an error. -/
theorem seektable_single (bs : List Block) (s : Seen) (out : List Nat) (h : writeRest s bs = .ok out) :
    (bs.filter isSeektable).length + (if s.seektable then 1 else 0) ≤ 1 := by
  induction bs generalizing s out with
  | nil => cases s.seektable <;> decide
  | cons b r ih =>
    obtain ⟨s', x, y, hc, -, hy, -⟩ := writeRest_cons_ok_iff.mp h
    have := ih s' y hy
    have := checkUnique_seek hc
    rw [← List.countP_eq_length_filter] at *
    rw [List.countP_cons]
    omega

/-! ### the hypotheses are satisfiable; the one representational quirk -/

def exampleCue : Cue :=
  { cdda := true, catalog := [], leadIn := 88200,
    tracks := [{ offset := 0, number := 1, isrc := [], nonAudio := false, preEmph := false, points := [⟨0, 1⟩] },
               { offset := 588 * 100, number := 2, isrc := [65, 65, 54, 81, 55, 50, 48, 48, 48, 48, 52, 55], nonAudio := false, preEmph := true,
                 points := [⟨0, 0⟩, ⟨588 * 150, 1⟩] }],
    lead := { offset := 588 * 100000, isrc := [], nonAudio := false, preEmph := false } }

def exampleList : List Block :=
  [.streaminfo { minBlock := 16, maxBlock := 4096, minFrame := 0, maxFrame := 0, rate := 44100, channels := 2, bps := 1, total := 0,
                 md5 := List.replicate 16 0 },
   .padding 7, .application 0x72696666 [1, 2, 3], .seektable [.defined 0 0 4096, .defined 4096 100 4096, .placeholder],
   .vorbis [118] [[84, 61, 120]], .picture { ptype := 3, mime := [105], desc := [], width := 1, height := 2, depth := 24, colors := 0, data := [9, 9] },
   .cuesheet exampleCue]

example : (exampleList.all blockWf = true) ∧ (match writeBlocks exampleList with | .ok o => o.length | .error _ => 0) = 725 := by
  decide +kernel

/-- Known finding (not repaired): `md5 = Some([0; 16])` shares its encoding with `None`, so this
    value is accepted by the writer and does not read back equal. -/
theorem md5_some_zero_not_roundtrip :
    ∃ si bs, (Block.streaminfo si).body = .ok bs ∧ parseStreaminfo bs ≠ some si := by
  refine ⟨{ minBlock := 16, maxBlock := 16, minFrame := 0, maxFrame := 0, rate := 1, channels := 1, bps := 16, total := 0,
            md5 := List.replicate 16 0, md5Some := true }, _, rfl, ?_⟩
  decide +kernel

end Flac.C11
