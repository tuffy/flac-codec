/-
  Props/C01.lean — C01: encoding is lossless.  Mechanism theorems, each stated about the kernels
  REGENERATED from the Rust source (`Gen/KernelsEnc.lean`, `Gen/KernelsDec.lean`) and the decoder model assembled from them:
  a change to either side's arithmetic breaks the corresponding proof.
-/
import FlacModel.Model.Encode
import FlacModel.Proofs.Machine
import FlacModel.Proofs.Layout
import FlacModel.Proofs.DecodeFacts

namespace Flac.C01
open Flac Gen

/-! ### channel decorrelation (`correlate_channels`) and its inverse (`read_subframes`), depth ≤ 31 -/

theorem encSide_ok (p : Profile) (l r : Int) (h : fitsS 32 (l - r) = true) : encSide p l r = .ok (l - r) := by
  simp only [encSide, subS, resS_of_fits p 32 h]

theorem encMid_ok (p : Profile) (l r : Int) (h : fitsS 32 (l + r) = true) : encMid p l r = .ok ((l + r) / 2) := by
  simp only [encMid, addS, resS_of_fits p 32 h, bind, Except.bind, pure, Except.pure, Int.pow_one]

/-- left/side: the decoder recovers `right` from (`left`, `left − right`) in both profiles, no trap -/
theorem stereo_leftside_inverse (p : Profile) (l r : Int) (hl : fitsS 31 l = true) (hr : fitsS 31 r = true) :
    encSide p l r = .ok (l - r) ∧ decLeftSide p l (l - r) = .ok r := by
  refine ⟨encSide_ok p l r (fits32_of_fits31 l r hl hr).2.1, ?_⟩
  have := decLeftSide_ok p l (l - r) (by rw [Int.sub_sub_self]; exact fits_mono (by decide) hr)
  rwa [Int.sub_sub_self] at this

/-- side/right: the decoder recovers `left` from (`left − right`, `right`) -/
theorem stereo_sideright_inverse (p : Profile) (l r : Int) (hl : fitsS 31 l = true) (hr : fitsS 31 r = true) :
    decSideRight p (l - r) r = .ok l := by
  have := decSideRight_ok p (l - r) r (by rw [Int.sub_add_cancel]; exact fits_mono (by decide) hl)
  rwa [Int.sub_add_cancel] at this

/-- mid/side: `((l+r)>>1, l−r)` is undone exactly by `sum = mid*2 + |side| % 2`,
    `(sum ± side) >> 1`, with no trap in the overflow-checked profile and no wrap in release -/
theorem stereo_midside_inverse (p : Profile) (l r : Int) (hl : fitsS 31 l = true) (hr : fitsS 31 r = true) :
    encMidSide p l r = .ok ((l + r) / 2, l - r) ∧ midSide32 p ((l + r) / 2) (l - r) = .ok (l, r) := by
  obtain ⟨hadd, hsub, hmin⟩ := fits32_of_fits31 l r hl hr
  refine ⟨by simp only [encMidSide, encMid_ok p l r hadd, encSide_ok p l r hsub], ?_⟩
  -- the kernel computes `(2m + s%2 ± s) / 2` exactly (`midSide32_ok`).  At `m = (l+r)/2`, `s = l−r` the low bit of `s` is
  -- the bit the halving dropped, so `2m + s%2 = l + r`, and the two results are `2l/2`, `2r/2`
  have e : 2 * ((l + r) / 2) + (l - r) % 2 = l + r := by omega
  have eL : (2 * ((l + r) / 2) + (l - r) % 2 + (l - r)) / 2 = l := by
    rw [e, show l + r + (l - r) = l * 2 from by omega, Int.mul_ediv_cancel _ (by decide)]
  have eR : (2 * ((l + r) / 2) + (l - r) % 2 - (l - r)) / 2 = r := by
    rw [e, show l + r - (l - r) = r * 2 from by omega, Int.mul_ediv_cancel _ (by decide)]
  have := midSide32_ok p ((l + r) / 2) (l - r) hsub (by rw [eL]; exact hl) (by rw [eR]; exact hr) hmin
  rwa [eL, eR] at this

/-! ### wasted bits (`encode_subframe` vs `read_subframe`) -/

/-- removing `w` common trailing zero bits and shifting them back is the identity -/
theorem wasted_inverse (p : Profile) (y : Int) (w : Nat) (hw : w < 32) (hx : fitsS 32 (y * 2 ^ w) = true) :
    encWastedShr p (y * 2 ^ w) w = .ok y ∧ decWastedShl32 p y w = .ok (y * 2 ^ w) := by
  have hpos : (0 : Int) < 2 ^ w := Int.pow_pos (by decide)
  constructor
  · rw [encWastedShr, shrX_ok p 32 w hw, Int.mul_ediv_cancel _ (Int.ne_of_gt hpos)]
  · exact decWastedShl32_ok p y w hw hx

/-! ### residual = sample − truncated prediction, and the decoder adds the same prediction back
    (`encode_residuals` vs `predict`) -/

theorem predict_step_restores (p : Profile) (x sum : Int) (shift : Nat) (r : Int) (hs : shift < 64)
    (hx : fitsS 32 x = true) (hsum : fitsS 64 sum = true) (h : encResidualStep x sum shift = some r) :
    predictStep p 32 r sum shift = .ok x := by
  rw [encResidualStep, Int.toNat_natCast, checkedSubS_eq_some] at h
  -- the encoder subtracted the full prediction, the decoder adds it back
  obtain rfl : r + sum / 2 ^ shift = x := by rw [← h.2]; exact Int.sub_add_cancel ..
  exact predictStep32_ok p r sum shift hs hsum hx

theorem predict_restore_go (p : Profile) (coefs : List Int) (shift : Nat) (hs : shift < 64)
    (hc : ∀ c ∈ coefs, fitsS 16 c = true) (hl : coefs.length ≤ 32)
    (xs hist rs : List Int) (hh : ∀ x ∈ hist, fitsS 32 x = true) (hx : ∀ x ∈ xs, fitsS 32 x = true)
    (h : encResidualsGo coefs shift hist xs = some rs) :
    predictGo p 32 coefs shift hist rs = .ok (hist.reverse ++ xs) := by
  fun_induction encResidualsGo coefs shift hist xs generalizing rs with
  | case1 hist => obtain rfl := Option.some.inj h; simp [predictGo]   -- no sample left
  | case2 | case3 => cases h                                          -- this step, or a later one, records no residual
  | case4 hist x xs r hr rs' hrs ih =>                                -- residual `r` recorded, the rest gives `rs'`
    obtain rfl := Option.some.inj h
    obtain ⟨hx0, hxs⟩ := List.forall_mem_cons.mp hx
    simp only [predictGo, predict_step_restores p x _ shift r hs hx0 (dot_fits64 hist coefs hh hc hl) hr,
      ih rs' (List.forall_mem_cons.mpr ⟨hx0, hh⟩) hxs hrs, List.reverse_cons, List.append_assoc, List.singleton_append]

/-- **predict_restore**: for *every* coefficient list and shift (whatever the floating-point LPC
    analysis chose), if the encoder's residual loop succeeds on a channel, the decoder's prediction
    loop maps its warm-up samples and those residuals back to exactly that channel, in both profiles.
    The sum stays in i64 (`dot_fits64`) for 32-bit samples, coefficients of at most 16 bits and at most 32 taps —
    which is everything the format allows (precision ≤ 15 bits, order ≤ 32). -/
theorem predict_restore (p : Profile) (coefs : List Int) (shift : Nat) (hs : shift < 64)
    (hc : ∀ c ∈ coefs, fitsS 16 c = true) (hl : coefs.length ≤ 32)
    (channel rs : List Int) (hx : ∀ x ∈ channel, fitsS 32 x = true)
    (h : encLpcResiduals coefs shift channel = some rs) :
    predict p 32 coefs shift (channel.take coefs.length) rs = .ok channel := by
  rw [predict, predict_restore_go p coefs shift hs hc hl _ _ rs
    (fun x hx' => hx x (List.mem_of_mem_take (List.mem_reverse.mp hx'))) (fun x hx' => hx x (List.mem_of_mem_drop hx')) h,
    List.reverse_reverse, List.take_append_drop]

/-! ### partition layout (`best_partitions` vs `read_block`) -/

/-- **layout_agree**: every slicing the encoder accepts for candidate order `po` (a candidate
    always divides the block: `po ≤ trailing_zeros(block size)`) and then writes as partition order
    `ilog2(count)` is exactly the slicing the decoder derives from (block size, predictor order,
    written order) — and it satisfies the partition-order rule of RFC 9639 that the decoder
    enforces — for all block sizes, predictor orders and candidates. -/
theorem layout_agree (bs order po : Nat) (sizes : List Nat) (hbs : bs / 2 ^ po ≠ 0) (hdiv : bs % 2 ^ po = 0)
    (hle : order ≤ bs) (h : encLayout bs order po = some sizes) :
    decLayout bs order (Nat.log2 sizes.length) = .ok sizes := by
  rw [encLayout, Option.ite_none_right_eq_some, Option.some.injEq] at h
  obtain ⟨hacc, rfl⟩ := h
  -- the encoder's test: `rchunks` cut exactly `2^po` pieces, which forces `order < bs / 2^po`
  have hlen := eq_of_beq hacc
  have hord : order < bs / 2 ^ po :=
    rchunk_count_order (bs / 2 ^ po) (2 ^ po) order (div_mul_of_mod_zero bs _ hdiv) (Nat.pos_of_ne_zero hbs) (Nat.two_pow_pos po) hlen
  rw [hlen, Nat.log2_two_pow, decLayout_eq_rfcLayout, rfcLayout_eq_rchunks bs order po hdiv hord]

/-- non-vacuity of `layout_agree`, and the short block whose first partition would be at most as long as the predictor order:
    (bs, order, po) = (4, 2, 2) and (4, 2, 1) are *rejected* by the encoder's rule, (4, 2, 0) is
    accepted; a regular case (16, 2, 2) gives the RFC layout -/
example : encLayout 4 2 2 = none ∧ encLayout 4 2 1 = none ∧ encLayout 4 2 0 = some [2]
    ∧ encLayout 16 2 2 = some [2, 4, 4, 4] := by decide

/-! ### Rice folding (encode.rs `write_residuals` vs decode.rs `read_block`) -/

/-- the encoder's fold of a negative residual is the RFC zig-zag value and never traps, for every
    residual the RFC allows (the most negative 32-bit value is excluded there) -/
theorem rice_fold_neg (p : Profile) (r : Int) (h0 : r < 0) (h1 : -2147483648 < r) :
    encRiceFoldNeg p r = .ok (foldRice r) := by
  have hf := foldRice_cast r
  rw [if_pos h0] at hf
  -- every intermediate value of `((-r as u32 - 1) << 1) + 1` is in range
  have hb : fitsS 32 (-r) = true ∧ fitsU 32 (-r) = true ∧ fitsU 32 (-r - 1) = true ∧ fitsU 32 ((-r - 1) * 2) = true
      ∧ fitsU 32 ((-r - 1) * 2 + 1) = true := by
    simp only [fitsS32_iff, fitsU32_iff]; omega
  obtain ⟨b1, b2, b3, b4, b5⟩ := hb
  simp only [encRiceFoldNeg, negS, subU, addU, bind, Except.bind, Int.pow_one, castU,
    resS_of_fits p 32 b1, wrapU_of_fits 32 b2, resU_of_fits p 32 b3, wrapU_of_fits 32 b4,
    resU_of_fits p 32 b5, hf]

theorem rice_fold_pos (p : Profile) (r : Int) (h0 : 0 ≤ r) (h1 : r < 2147483648) :
    encRiceFoldPos p r = .ok (foldRice r) := by
  have hf := foldRice_cast r
  rw [if_neg (by omega)] at hf
  have hb : fitsU 32 r = true ∧ fitsU 32 (r * 2) = true := by simp only [fitsU32_iff]; omega
  simp only [encRiceFoldPos, pure, Except.pure, Int.pow_one, castU, wrapU_of_fits 32 hb.1, wrapU_of_fits 32 hb.2, hf]

/-- **fold_unfold**: the decoder's `(msb << k) | lsb` + zig-zag un-folding inverts the fold for
    every RFC-legal residual and every Rice parameter -/
theorem fold_unfold (k : Nat) (r : Int) (h0 : -2147483648 < r) (h1 : r < 2147483648) :
    unfoldRice k (foldRice r / 2 ^ k) (foldRice r % 2 ^ k) = r :=
  unfoldRice_foldRice k r (foldRice_lt r (Int.le_of_lt h0) h1)

end Flac.C01
