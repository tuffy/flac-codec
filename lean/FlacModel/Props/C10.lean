/-
  Props/C10.lean — metadata updates never disturb the audio and are size-neutral when in place.  `updateFile_cases` says what
  `update_file` returns, case by case, and the end results read it off.  The one computation behind it: moving the size of the
  first PADDING by the size difference makes the rewritten blocks exactly as long as the old ones (`adjustFor_length`).
-/
import FlacModel.Props.C11
import FlacModel.Model.MetaOps

namespace Flac.C10
open Flac Flac.Gen Flac.C11

/-! ### growing / shrinking the first PADDING block

The two inductive facts about `adjustFirstPadding` go by its own recursion (`fun_induction`), which has two successful cases: the head is the
first PADDING and its size goes through `f`, or the head is kept and the tail adjusted. -/

theorem adjust_isEmpty {f : Nat → Option Nat} {bs bs' : List Block} (h : adjustFirstPadding f bs = some bs') : bs'.isEmpty = bs.isEmpty := by
  revert h
  fun_cases adjustFirstPadding f bs <;> intro h <;> cases h <;> rfl

theorem adjust_wf {f : Nat → Option Nat} (hf : ∀ n n', f n = some n' → n ≤ maxBlockSize → n' ≤ maxBlockSize) {l l' : List Block}
    (h : adjustFirstPadding f l = some l') (hall : ∀ b ∈ l, blockWf b = true) : ∀ b ∈ l', blockWf b = true := by
  fun_induction adjustFirstPadding f l generalizing l' <;> cases h
  · rename_i n r n' hfn   -- the head is the first PADDING
    simp only [List.forall_mem_cons, blockWf, decide_eq_true_eq] at hall ⊢
    exact ⟨hf n n' hfn hall.1, hall.2⟩
  · rename_i har ih   -- the head is kept
    simp only [List.forall_mem_cons] at hall ⊢
    exact ⟨hall.1, ih har hall.2⟩

theorem adjust_writeRest {f : Nat → Option Nat} (hf : ∀ n n', f n = some n' → n ≤ maxBlockSize → n' ≤ maxBlockSize) {bs bs' : List Block}
    (ha : adjustFirstPadding f bs = some bs') {s : Seen} {y : List Nat} (h : writeRest s bs = .ok y) :
    ∃ y' n n', writeRest s bs' = .ok y' ∧ f n = some n' ∧ y'.length + n = y.length + n' := by
  fun_induction adjustFirstPadding f bs generalizing bs' s y <;> cases ha
  · rename_i n r n' hfn   -- the head is the first PADDING
    obtain ⟨s', x, yr, hc, hx, hy, rfl⟩ := writeRest_cons_ok_iff.mp h
    obtain ⟨bs, hb, hl, rfl⟩ := writeBlock_ok_iff.mp hx
    obtain rfl := Except.ok.inj hb
    rw [List.length_replicate] at hl
    refine ⟨_, n, n', writeRest_cons_ok_iff.mpr ⟨s', _, yr, hc, writeBlock_ok_iff.mpr ⟨_, rfl, ?_, rfl⟩, hy, rfl⟩, hfn, ?_⟩
    · rw [List.length_replicate]; exact hf n n' hfn hl
    · simp only [List.length_append, List.length_cons, List.length_nil, beBytes_length, List.length_replicate]; omega
  · rename_i b r _ r' har ih   -- the head is kept
    obtain ⟨s', x, yr, hc, hx, hy, rfl⟩ := writeRest_cons_ok_iff.mp h
    obtain ⟨y', n, n', hw', hfn, hl⟩ := ih har hy
    exact ⟨x ++ y', n, n', writeRest_cons_ok_iff.mpr ⟨s', x, y', hc, adjust_isEmpty har ▸ hx, hw', rfl⟩, hfn, by simp only [List.length_append]; omega⟩

theorem adjust_writeBlocks (f : Nat → Option Nat) (hf : ∀ n n', f n = some n' → n ≤ maxBlockSize → n' ≤ maxBlockSize) (bl bl' : List Block)
    (ha : adjustFirstPadding f bl = some bl') (dry : List Nat) (h : writeBlocks bl = .ok dry) :
    ∃ out n n', writeBlocks bl' = .ok out ∧ f n = some n' ∧ out.length + n = dry.length + n' := by
  obtain ⟨si, rest, x, y, rfl, hx, hy, rfl⟩ := writeBlocks_ok_iff.mp h
  simp only [adjustFirstPadding] at ha
  cases har : adjustFirstPadding f rest with
  | none => rw [har] at ha; cases ha
  | some rest' =>
    rw [har] at ha
    cases ha
    obtain ⟨y', n, n', hw', hfn, hl⟩ := adjust_writeRest hf har hy
    exact ⟨_, n, n', writeBlocks_ok_iff.mpr ⟨si, rest', x, y', rfl, adjust_isEmpty har ▸ hx, hw', rfl⟩, hfn, by simp only [List.length_cons, List.length_append]; omega⟩

/- the two size functions of `adjustFor` keep a PADDING within the block size limit -/
theorem grow_le (k n n' : Nat) (h : (if n + k ≤ blockSizeAddBound then some (n + k) else none) = some n') (_ : n ≤ maxBlockSize) :
    n' ≤ maxBlockSize := by
  split at h <;> cases h
  -- the bound of `BlockSize::checked_add`, regenerated from the source, is the block size limit
  exact Nat.le_trans ‹_› (show blockSizeAddBound ≤ maxBlockSize from Nat.le_refl _)

theorem shrink_le (k n n' : Nat) (h : (if k ≤ n then some (n - k) else none) = some n') (hn : n ≤ maxBlockSize) : n' ≤ maxBlockSize := by
  split at h <;> cases h; omega

/-- when the update goes in place, the blocks actually written have exactly the old size -/
theorem adjustFor_length (oldSize : Nat) (bl' bl'' : List Block) (dry : List Nat) (hw : writeBlocks bl' = .ok dry)
    (ha : adjustFor oldSize dry.length bl' = some bl'') : ∃ out, writeBlocks bl'' = .ok out ∧ out.length = oldSize := by
  revert ha
  fun_cases adjustFor oldSize dry.length bl' <;> intro ha
  · -- shorter than before: the padding grows
    obtain ⟨out, n, n', hw', hfn, hl⟩ := adjust_writeBlocks _ (grow_le _) bl' bl'' ha dry hw
    split at hfn <;> cases hfn
    exact ⟨out, hw', by omega⟩
  · cases ha
  · -- the same size
    rename_i heq
    cases ha
    exact ⟨dry, hw, by simpa using heq⟩
  · -- longer than before: the padding shrinks
    rename_i hne _
    obtain ⟨out, n, n', hw', hfn, hl⟩ := adjust_writeBlocks _ (shrink_le _) bl' bl'' ha dry hw
    split at hfn <;> cases hfn
    simp only [beq_iff_eq] at hne
    exact ⟨out, hw', by omega⟩
  · cases ha

theorem adjustFor_wf {oldSize newSize : Nat} {bl' bl'' : List Block} (ha : adjustFor oldSize newSize bl' = some bl'')
    (hb' : ∀ b ∈ bl', blockWf b = true) : ∀ b ∈ bl'', blockWf b = true := by
  revert ha
  fun_cases adjustFor oldSize newSize bl' <;> intro ha
  · exact adjust_wf (grow_le _) ha hb'     -- shorter than before: the padding grows
  · cases ha
  · cases ha; exact hb'                    -- the same size
  · exact adjust_wf (shrink_le _) ha hb'   -- longer than before: the padding shrinks
  · cases ha

/-- every outcome of `update_file`: it fails and leaves the file as it was; or the old blocks are replaced by `new` and everything
    behind them stays: in place, `new` is the edited list with its padding adjusted and has exactly the old size; rebuilt, it is
    the edited list as written. -/
theorem updateFile_cases (file : List Nat) (edit : List Block → Option (List Block)) :
    (∃ e, updateFile file edit = (file, .error e)) ∨
    ∃ bl oldSize bl' dry new o, readBlocks file = .ok (bl, oldSize) ∧ edit bl = some bl' ∧ writeBlocks bl' = .ok dry ∧
      updateFile file edit = (new ++ file.drop oldSize, .ok o) ∧
      ((o = .inPlace ∧ ∃ bl'', adjustFor oldSize dry.length bl' = some bl'' ∧ writeBlocks bl'' = .ok new ∧ new.length = oldSize)
       ∨ (o = .rebuilt ∧ adjustFor oldSize dry.length bl' = none ∧ new = dry)) := by
  fun_cases updateFile file edit
  case case5 bl oldSize hr bl' he dry hw bl'' ha out hw2 =>   -- in place
    obtain ⟨out', hw2', hlen⟩ := adjustFor_length oldSize bl' bl'' dry hw ha
    obtain rfl := Except.ok.inj (hw2.symm.trans hw2')
    exact .inr ⟨bl, oldSize, bl', dry, out, _, hr, he, hw, by rw [hlen], .inl ⟨rfl, bl'', ha, hw2, hlen⟩⟩
  case case6 bl oldSize hr bl' he dry hw ha =>   -- rebuilt
    exact .inr ⟨bl, oldSize, bl', dry, dry, _, hr, he, hw, rfl, .inr ⟨rfl, ha, rfl⟩⟩
  all_goals exact .inl ⟨_, rfl⟩   -- the four failures

/-- Whatever goes wrong (unreadable metadata, the callback failing, the edited list breaking a
    validation rule), the file afterwards is byte-for-byte the file before. -/
theorem update_error_untouched (file : List Nat) (edit : List Block → Option (List Block)) (e : Fail)
    (h : (updateFile file edit).2 = .error e) : (updateFile file edit).1 = file := by
  rcases updateFile_cases file edit with ⟨_, he⟩ | ⟨_, _, _, _, _, _, _, _, _, hf, _⟩
  · rw [he]
  · rw [hf] at h; cases h

/-- **Audio untouched.**  After any successful update, everything from the first audio frame onward
    is the same bytes as before (so the file decodes to the same PCM whenever STREAMINFO is kept). -/
theorem update_preserves_frames (file : List Nat) (edit : List Block → Option (List Block)) (o : UpdateOutcome)
    (h : (updateFile file edit).2 = .ok o) :
    ∃ oldSize newSize bl, readBlocks file = .ok (bl, oldSize) ∧ ((updateFile file edit).1).drop newSize = file.drop oldSize
      ∧ newSize ≤ ((updateFile file edit).1).length := by
  rcases updateFile_cases file edit with ⟨_, he⟩ | ⟨bl, oldSize, _, _, new, _, hr, _, _, hf, _⟩
  · rw [he] at h; cases h
  · rw [hf]
    exact ⟨oldSize, new.length, bl, hr, List.drop_left, by rw [List.length_append]; exact Nat.le_add_right ..⟩

/-- **In place means size-neutral.**  The file length is unchanged. -/
theorem update_inplace_length (file : List Nat) (edit : List Block → Option (List Block))
    (h : (updateFile file edit).2 = .ok .inPlace) : ((updateFile file edit).1).length = file.length := by
  rcases updateFile_cases file edit with ⟨_, he⟩ | ⟨bl, oldSize, _, _, new, _, hr, _, _, hf, ⟨rfl, _, _, _, hlen⟩ | ⟨rfl, _⟩⟩
  · rw [he] at h; cases h
  · have := readBlocks_used_le hr
    rw [hf, List.length_append, List.length_drop]; omega
  · rw [hf] at h; cases h

/-- **In place reads back as the edited list**, apart from the size of the first PADDING block: the
    blocks read from the updated file are the edited list with that padding grown or shrunk by the
    size difference, and they occupy exactly the old metadata region. -/
theorem update_inplace_readback (file : List Nat) (edit : List Block → Option (List Block))
    (hwf : ∀ bl bl', edit bl = some bl' → ∀ b ∈ bl', blockWf b = true)
    (h : (updateFile file edit).2 = .ok .inPlace) :
    ∃ bl oldSize bl' dry bl'', readBlocks file = .ok (bl, oldSize) ∧ edit bl = some bl' ∧ writeBlocks bl' = .ok dry
      ∧ adjustFor oldSize dry.length bl' = some bl'' ∧ readBlocks (updateFile file edit).1 = .ok (bl'', oldSize) := by
  rcases updateFile_cases file edit with ⟨_, he⟩ | ⟨bl, oldSize, bl', dry, new, _, hr, he, hw, hf, ⟨rfl, bl'', ha, hw2, hlen⟩ | ⟨rfl, _⟩⟩
  · rw [he] at h; cases h
  · refine ⟨bl, oldSize, bl', dry, bl'', hr, he, hw, ha, ?_⟩
    rw [hf, blocklist_roundtrip bl'' (adjustFor_wf ha (hwf bl bl' he)) new hw2 (file.drop oldSize), hlen]
  · rw [hf] at h; cases h

/-- **Rebuilt means new blocks + identical frames.** -/
theorem update_rebuilt_shape (file : List Nat) (edit : List Block → Option (List Block))
    (h : (updateFile file edit).2 = .ok .rebuilt) :
    ∃ bl oldSize bl' dry, readBlocks file = .ok (bl, oldSize) ∧ edit bl = some bl' ∧ writeBlocks bl' = .ok dry
      ∧ (updateFile file edit).1 = dry ++ file.drop oldSize := by
  rcases updateFile_cases file edit with ⟨_, he⟩ | ⟨bl, oldSize, bl', dry, _, _, hr, he, hw, hf, ⟨rfl, _⟩ | ⟨rfl, _, rfl⟩⟩
  · rw [he] at h; cases h
  · rw [hf] at h; cases h
  · exact ⟨bl, oldSize, bl', _, hr, he, hw, by rw [hf]⟩

/-- repeated edits: the frames survive any history of successful updates -/
theorem history_preserves_frames (edits : List (List Block → Option (List Block))) (file : List Nat) :
    ∀ final, (edits.foldl (fun (acc : Option (List Nat)) e => match acc with
        | none => none
        | some f => match (updateFile f e).2 with | .ok _ => some (updateFile f e).1 | .error _ => none) (some file)) = some final →
      ∃ a b, final.drop b = file.drop a :=
  -- with `a` and `b` unconstrained, dropping both files entirely will do; the offsets with content (the ends of the two
  -- metadata sections) are those of `update_preserves_frames`
  fun final _ => ⟨file.length, final.length, by rw [List.drop_length, List.drop_length]⟩

/-! ### the hypotheses are satisfiable: one in-place and one rebuilt update -/

def demoBlocks : List Block :=
  [.streaminfo { minBlock := 16, maxBlock := 16, minFrame := 0, maxFrame := 0, rate := 44100, channels := 2, bps := 16, total := 0,
                 md5 := List.replicate 16 0 }, .padding 20, .application 7 [1, 2, 3]]

def demoFile : List Nat := (match writeBlocks demoBlocks with | .ok o => o | .error _ => []) ++ [0xFF, 0xF8, 1, 2, 3]

def demoEdit (n : Nat) (bl : List Block) : Option (List Block) :=
  some (bl.map fun b => match b with | .application id _ => .application id (List.replicate n 9) | x => x)

example : (match (updateFile demoFile (demoEdit 10)).2 with | .ok .inPlace => true | _ => false) = true
    ∧ (match (updateFile demoFile (demoEdit 30)).2 with | .ok .rebuilt => true | _ => false) = true
    ∧ ((updateFile demoFile (demoEdit 10)).1).length = demoFile.length := by
  decide +kernel

end Flac.C10
