/-
  Props/C14.lean — C14: an interrupted encode leaves a file whose complete frames are all decodable.
  Loop-level theorem over `Model/FileDecode.decodeLoop` (the readers' frame loop): for a stream that
  is a sequence of frames followed by a strict prefix of the next one, the loop delivers exactly
  the complete frames, in order, and then stops — cleanly if nothing follows, with an error
  otherwise — never anything else.  The one-turn equations of the loop stand here for both modes; those for a declared
  total and their iteration (`decodeLoop_declared_frames`) serve C01c, C05c and C07b, not the theorems of this file.
-/
import FlacModel.Model.FileDecode
import FlacModel.Proofs.Local
import FlacModel.Proofs.FrameInv

namespace Flac.C14
open Flac

/-- frame locality: `f` decodes to `d` whatever follows it, consuming exactly `f` -/
structure Loc (p : Profile) (si : SInfo) (f : List Nat) (d : Decoded) : Prop where
  dec : ∀ rest, decodeFrame p (some si) (f ++ rest) = .ok d
  used : d.used = f.length
  hdr : ∀ rest, ∃ hu, parseHeaderBytes (some si) (f ++ rest) = .ok (d.hdr, hu, true)

theorem Loc.check {p : Profile} {si : SInfo} {f : List Nat} {d : Decoded} (hl : Loc p si f d) :
    checkStreaminfo (some si) d.hdr = .ok () :=
  decodeFrame_check (hl.dec [])

theorem Loc.drop {p : Profile} {si : SInfo} {f : List Nat} {d : Decoded} (hl : Loc p si f d) (rest : List Nat) :
    (f ++ rest).drop d.used = rest := by
  rw [hl.used, List.drop_left]

/-- a strict, non-empty prefix of a frame is detected as truncated: either already its header
    runs out of data (reported as an error because `decHeaderEofStrict` holds), or the frame body does -/
def Truncated (p : Profile) (si : SInfo) (part : List Nat) : Prop :=
  part ≠ [] ∧ (parseHeaderBytes (some si) part = .error .eof ∨
    ((∃ h, parseHeaderBytes (some si) part = .ok h) ∧ decodeFrame p (some si) part = .error .eof))

/-! ### one turn of the frame loop

Every theorem about `decodeLoop` over a stream of frames (here, `C01.declared_total_decodes_all`,
`C05.declared_total_truncated`, `C07.loop_refines`) is an induction whose step is one of these equations. -/

/-- no declared total: a local frame is delivered and the loop goes on behind it -/
theorem decodeLoop_undeclared_step {p : Profile} {si : SInfo} {f : List Nat} {d : Decoded} (hl : Loc p si f d)
    (rest : List Nat) (fuel cur : Nat) (acc : List (List (List Int))) :
    decodeLoop p si 0 (fuel + 1) (f ++ rest) cur acc
      = decodeLoop p si 0 fuel rest (cur + d.hdr.blockSize) (d.channels :: acc) := by
  obtain ⟨hu, hh⟩ := hl.hdr rest
  have h0 : ((0 : Nat) != 0) = false := rfl
  simp only [decodeLoop, h0, Bool.false_eq_true, if_false, hh, hl.dec, hl.drop]

/-- no declared total: running out of data exactly where a frame would start is a clean end of stream -/
theorem decodeLoop_undeclared_nil (p : Profile) (si : SInfo) (fuel cur : Nat) (acc : List (List (List Int))) :
    decodeLoop p si 0 (fuel + 1) [] cur acc = (acc.reverse, none) := by
  simp [decodeLoop, parseHeaderBytes_nil]

/-- no declared total: a truncated frame ends the loop with an end-of-data error -/
theorem decodeLoop_undeclared_truncated {p : Profile} {si : SInfo} {part : List Nat} (ht : Truncated p si part)
    (fuel cur : Nat) (acc : List (List (List Int))) :
    decodeLoop p si 0 (fuel + 1) part cur acc = (acc.reverse, some .eof) := by
  have hstrict : Gen.decHeaderEofStrict = true := rfl
  have hb : part.isEmpty = false := by simpa using ht.1
  rcases ht.2 with he | ⟨⟨h, hh⟩, hd⟩
  · simp [decodeLoop, he, hstrict, hb]
  · simp [decodeLoop, hh, hd]

/-- declared total, not yet reached: neither the debug profile's underflow check on `total - current_sample` nor the
    end-of-stream test fires -/
theorem declared_guards {total cur : Nat} (p : Profile) (hcur : cur < total) :
    (total != 0) = true ∧ (decide (total < cur) && (p == Profile.debug)) = false ∧ (total == cur) = false := by
  refine ⟨bne_iff_ne.mpr (by omega), ?_, beq_false_of_ne (by omega)⟩
  rw [decide_eq_false (by omega), Bool.false_and]

/-- declared total, not yet reached: a header that cannot be read ends the loop with its error -/
theorem decodeLoop_declared_header_error (p : Profile) {si : SInfo} {bytes : List Nat} {e : Fail}
    (he : parseHeaderBytes (some si) bytes = .error e) (total fuel cur : Nat) (acc : List (List (List Int))) (hcur : cur < total) :
    decodeLoop p si total (fuel + 1) bytes cur acc = (acc.reverse, some e) := by
  obtain ⟨hne, c1, c2⟩ := declared_guards p hcur
  simp only [decodeLoop, hne, c1, c2, he, if_true, Bool.false_eq_true, if_false]

/-- declared total, not yet reached, header read with a good CRC-8 and consistent with STREAMINFO: the sample accounting of
    `read_frame`, in the shape of `Dec.readFrame`, then the frame itself -/
theorem decodeLoop_declared_header (p : Profile) {si : SInfo} {bytes : List Nat} {h : Header} {n : Nat}
    (hh : parseHeaderBytes (some si) bytes = .ok (h, n, true)) (hck : checkStreaminfo (some si) h = .ok ())
    (total fuel cur : Nat) (acc : List (List (List Int))) (hcur : cur < total) :
    decodeLoop p si total (fuel + 1) bytes cur acc
      = if h.blockSize > total - cur then (acc.reverse, some (.err "TooManySamples"))
        else if h.blockSize = total - cur ∨ 14 < h.blockSize then
          match decodeFrame p (some si) bytes with
          | .error e => (acc.reverse, some e)
          | .ok d => decodeLoop p si total fuel (bytes.drop d.used) (cur + h.blockSize) (d.channels :: acc)
        else (acc.reverse, some (.err "ShortBlock")) := by
  obtain ⟨hne, c1, c2⟩ := declared_guards p hcur
  have hov : Gen.decOvershootIsError = true := rfl
  have hge : total ≥ cur := by omega
  simp only [decodeLoop, hne, c1, c2, hh, hck, hov, hge, Bool.false_eq_true, if_false, if_true, Bool.not_true, decide_true, Bool.true_and]
  -- the same ladder, with the source's Boolean tests (the second one negated) read as propositions
  simp only [decide_eq_true_eq, Bool.not_eq_true', Bool.or_eq_false_iff, beq_eq_false_iff_ne, decide_eq_false_iff_not, ← not_or,
    ite_not, ne_eq, gt_iff_lt]
  rfl -- the two `match`es on `decodeFrame` are different constants with the same cases

/-- the same turn on a local frame: it is delivered if the accounting admits it -/
theorem decodeLoop_declared_step {p : Profile} {si : SInfo} {f : List Nat} {d : Decoded} (hl : Loc p si f d)
    (total : Nat) (rest : List Nat) (fuel cur : Nat) (acc : List (List (List Int))) (hcur : cur < total) :
    decodeLoop p si total (fuel + 1) (f ++ rest) cur acc
      = if d.hdr.blockSize > total - cur then (acc.reverse, some (.err "TooManySamples"))
        else if d.hdr.blockSize = total - cur ∨ 14 < d.hdr.blockSize then
          decodeLoop p si total fuel rest (cur + d.hdr.blockSize) (d.channels :: acc)
        else (acc.reverse, some (.err "ShortBlock")) := by
  obtain ⟨hu, hh⟩ := hl.hdr rest
  simp only [decodeLoop_declared_header p hh hl.check total fuel cur acc hcur, hl.dec, hl.drop]

/-- the declared total is reached: a clean end of stream, whatever bytes follow -/
theorem decodeLoop_at_total (p : Profile) (si : SInfo) (total : Nat) (htot : total ≠ 0) (fuel : Nat) (bytes : List Nat)
    (acc : List (List (List Int))) : decodeLoop p si total (fuel + 1) bytes total acc = (acc.reverse, none) := by
  have hne : (total != 0) = true := by simpa using htot
  simp [decodeLoop, hne]

/-- declared total not reached: running out of data is an error -/
theorem decodeLoop_declared_nil (p : Profile) (si : SInfo) (total fuel cur : Nat) (acc : List (List (List Int)))
    (hcur : cur < total) : decodeLoop p si total (fuel + 1) [] cur acc = (acc.reverse, some .eof) :=
  decodeLoop_declared_header_error p (parseHeaderBytes_nil _) total fuel cur acc hcur

/-- a run of local frames that the accounting admits is delivered in order, and the loop goes on behind it, where their block
    sizes add up to.  `A` is any
    predicate on the block sizes still to come and the samples still expected that unfolds on a non-empty list the way
    `C01.blocksOk` and `C05.blocksFit` do; `more` are the blocks behind the run. -/
theorem decodeLoop_declared_frames {p : Profile} {si : SInfo} (A : List Nat → Nat → Prop)
    (hA : ∀ b rest rem, A (b :: rest) rem → 0 < b ∧ b ≤ rem ∧ (b = rem ∨ 14 < b) ∧ A rest (rem - b))
    (total : Nat) (fs : List (List Nat × Decoded)) (hloc : ∀ fd ∈ fs, Loc p si fd.1 fd.2) (more : List Nat) (tail : List Nat)
    (fuel cur : Nat) (acc : List (List (List Int))) (hcur : cur ≤ total)
    (h : A (fs.map (·.2.hdr.blockSize) ++ more) (total - cur)) :
    cur + (fs.map (·.2.hdr.blockSize)).sum ≤ total ∧ A more (total - (cur + (fs.map (·.2.hdr.blockSize)).sum)) ∧
      decodeLoop p si total (fs.length + fuel) ((fs.map (·.1)).flatten ++ tail) cur acc
        = decodeLoop p si total fuel tail (cur + (fs.map (·.2.hdr.blockSize)).sum) ((fs.map (·.2.channels)).reverse ++ acc) := by
  induction fs generalizing cur acc with
  | nil => exact ⟨hcur, h, by rw [List.length_nil, Nat.zero_add]; rfl⟩
  | cons fd fs ih =>
    -- `map_cons` first: applied to `(fd :: fs).map _` as it stands, `hA` would hand back the block size as a beta-redex, a new atom
    -- for `omega`
    rw [List.map_cons, List.cons_append] at h
    obtain ⟨b0, b1, b2, b3⟩ := hA _ _ _ h
    obtain ⟨hc, hm, e⟩ := ih (fun x hx => hloc x (List.mem_cons_of_mem _ hx)) (cur + fd.2.hdr.blockSize) (fd.2.channels :: acc)
      (by omega) (by rwa [Nat.sub_add_eq])
    rw [List.map_cons, List.sum_cons, ← Nat.add_assoc]
    refine ⟨hc, hm, ?_⟩
    rw [List.map_cons, List.flatten_cons, List.append_assoc, List.length_cons, Nat.add_right_comm,
      decodeLoop_declared_step (hloc fd (List.mem_cons_self ..)) total _ _ cur acc (by omega), if_neg (by omega), if_pos b2, e, List.map_cons, List.reverse_cons,
      List.append_assoc]
    rfl

/-- **prefix_decodes_complete_frames** (undeclared total): the loop over
    `f₁ ++ … ++ f_k ++ part` delivers the channels of `f₁ … f_k`, in order, and then stops cleanly if
    `part` is empty, or with an end-of-data error if `part` is a truncated frame -/
theorem prefix_decodes_complete_frames (p : Profile) (si : SInfo)
    (fs : List (List Nat × Decoded)) (hloc : ∀ fd ∈ fs, Loc p si fd.1 fd.2)
    (part : List Nat) (hpart : part = [] ∨ Truncated p si part)
    (fuel cur : Nat) (acc : List (List (List Int))) (hfuel : fs.length < fuel) :
    decodeLoop p si 0 fuel ((fs.map (·.1)).flatten ++ part) cur acc
      = (acc.reverse ++ fs.map (·.2.channels), if part = [] then none else some .eof) := by
  obtain ⟨fuel, rfl⟩ : ∃ k, fuel = k + 1 := ⟨fuel - 1, by omega⟩
  induction fs generalizing fuel cur acc with
  | nil =>
    rcases hpart with rfl | ht
    · simp [decodeLoop_undeclared_nil]
    · simp [decodeLoop_undeclared_truncated ht, ht.1]
  | cons fd fs ih =>
    obtain ⟨fuel, rfl⟩ : ∃ k, fuel = k + 1 := ⟨fuel - 1, by simp at hfuel; omega⟩
    rw [List.map_cons, List.flatten_cons, List.append_assoc, decodeLoop_undeclared_step (hloc fd (by simp)),
      ih (fun x hx => hloc x (by simp [hx])) _ _ fuel (by simpa using hfuel)]
    simp

/-! ### discharging the locality hypotheses

`Loc` and `Truncated` are hypotheses of `prefix_decodes_complete_frames`.  Both follow, for every frame that decodes
using all of its bytes, from the left-to-right structure of the parsers (`Proofs/Local.lean`). -/

/-- every frame that decodes, using all of its bytes, is local -/
theorem loc_of_decodes {p : Profile} {si : SInfo} {f : List Nat} {d : Decoded}
    (h : decodeFrame p (some si) f = .ok d) (hu : d.used = f.length) : Loc p si f d := by
  refine ⟨fun rest => decodeFrame_ext p (some si) f d h rest, hu, fun rest => ?_⟩
  obtain ⟨n, hn⟩ := decodeFrame_header h
  exact ⟨n, parseHeaderBytes_ext (some si) f _ hn rest⟩

/-- **C14, without locality hypotheses.**  Take any frames that each decode using all of their bytes
    (what the encoder has written so far) followed by any strict prefix of one more such frame (the
    write that was interrupted).  The decode loop delivers exactly the complete frames, in order, and
    then stops: cleanly if the cut fell on a frame boundary, with an end-of-data error otherwise. -/
theorem interrupted_decodes_complete_frames (p : Profile) (si : SInfo)
    (fs : List (List Nat × Decoded)) (hdec : ∀ fd ∈ fs, decodeFrame p (some si) fd.1 = .ok fd.2 ∧ fd.2.used = fd.1.length)
    (part x : List Nat) (d : Decoded)
    (hcut : part = [] ∨ (x ≠ [] ∧ decodeFrame p (some si) (part ++ x) = .ok d ∧ d.used = (part ++ x).length))
    (fuel cur : Nat) (acc : List (List (List Int))) (hfuel : fs.length < fuel) :
    decodeLoop p si 0 fuel ((fs.map (·.1)).flatten ++ part) cur acc
      = (acc.reverse ++ fs.map (·.2.channels), if part = [] then none else some .eof) := by
  refine prefix_decodes_complete_frames p si fs (fun fd hfd => loc_of_decodes (hdec fd hfd).1 (hdec fd hfd).2) part ?_
    fuel cur acc hfuel
  by_cases hp : part = []
  · exact .inl hp
  · obtain ⟨hx, hd, hu⟩ := hcut.resolve_left hp
    exact .inr ⟨hp, decodeFrame_cut p (some si) part x d hd hu hx⟩

end Flac.C14
