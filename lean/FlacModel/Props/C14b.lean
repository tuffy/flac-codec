/-
  Props/C14b.lean — C14 for the whole interrupted FILE: the metadata section written up front (with the provisional
  STREAMINFO that declares no total) followed by the frames written so far and a cut inside the next frame is decoded by the
  file readers' model to exactly the complete frames, then end of data (or a clean end if the cut fell on a frame boundary).
-/
import FlacModel.Props.C14
import FlacModel.Proofs.FileHead

namespace Flac.C14
open Flac Gen

/-- **An interrupted file decodes to its complete frames.** -/
theorem interrupted_file_decodes (p : Profile) (si : Streaminfo) (rest : List Block) (hw : C11.streaminfoWf si = true)
    (out : List Nat) (h : writeBlocks (.streaminfo si :: rest) = .ok out) (htot : si.total = 0)
    (fs : List (List Nat × Decoded))
    (hdec : ∀ fd ∈ fs, decodeFrame p (some { rate := si.rate, channels := si.channels, bps := si.bps, maxBlock := si.maxBlock }) fd.1 = .ok fd.2
      ∧ fd.2.used = fd.1.length)
    (part x : List Nat) (d : Decoded)
    (hcut : part = [] ∨ (x ≠ [] ∧ decodeFrame p (some { rate := si.rate, channels := si.channels, bps := si.bps, maxBlock := si.maxBlock }) (part ++ x) = .ok d
      ∧ d.used = (part ++ x).length)) :
    ∃ hd, hd.si = si ∧
      fileDecode p (out ++ ((fs.map (·.1)).flatten ++ part))
        = .ok { head := hd, frames := fs.map (·.2.channels), stop := if part = [] then none else some .eof } := by
  obtain ⟨hd, h2, h1⟩ := fileDecode_written p si rest hw out h ((fs.map (·.1)).flatten ++ part)
  refine ⟨hd, h2, ?_⟩
  have hlen := length_le_length_flatMap (·.1) fs fun fd hfd => decodeFrame_bytes_pos (hdec fd hfd).1
  rw [List.flatMap_def] at hlen
  rw [h1, htot, interrupted_decodes_complete_frames p _ fs hdec part x d hcut _ 0 []
    (by simp only [List.length_append] at hlen ⊢; omega)]
  simp

end Flac.C14
