/-
  Props/C13.lean — success is only reported when the output really reached the underlying stream.
  Model: `Model/Io.lean`, a sink whose every call may fail, be interrupted or accept only part.  Each layer is described once
  by what it leaves on the sink: `write_all` (`sinkWriteAll_spec`), then the `BufWriter` through the invariant `Inv`
  (sink contents ++ buffer = everything accepted so far), which `flush_buf`, `write_all` and the chunk loop keep and after
  which a successful `flush` has put everything accepted on the sink (`bwFlush_spec`);
  and the unbuffered chunk loop (`writeDirect`, `direct_ok_delivers`), on which the checksummed path of C13b rests.
-/
import FlacModel.Model.Io

namespace Flac.C13
open Flac.Io Flac.Gen

theorem sinkWrite_ok_delivers {ev : Nat → Ev} {s s' : Sink} {bs : List Nat} {n : Nat} (h : sinkWrite ev s bs = (s', .ok n)) :
    s'.data = s.data ++ bs.take n ∧ (n = 0 → bs = []) := by
  unfold sinkWrite at h
  split at h <;> cases h
  exact ⟨congrArg _ List.take_eq_take_min, fun h0 => List.length_eq_zero_iff.mp (by omega)⟩

theorem sinkWrite_stalled {ev : Nat → Ev} {s s' : Sink} {bs : List Nat} {r : WR} (h : sinkWrite ev s bs = (s', r))
    (hr : ∀ n, r ≠ .ok n) : s'.data = s.data := by
  unfold sinkWrite at h
  split at h <;> cases h
  · rfl
  · rfl
  · exact absurd rfl (hr _)

/-- `write_all`: the sink grows by exactly the part of the input that is not left over; success
    means nothing is left -/
theorem sinkWriteAll_spec (ev : Nat → Ev) (fuel : Nat) (s : Sink) (bs : List Nat) :
    (∃ written, (sinkWriteAll ev fuel s bs).1.data = s.data ++ written ∧ written ++ (sinkWriteAll ev fuel s bs).2.1 = bs)
      ∧ ((sinkWriteAll ev fuel s bs).2.2 = true → (sinkWriteAll ev fuel s bs).2.1 = []) := by
  fun_induction sinkWriteAll ev fuel s bs
  case case1 s bs => exact ⟨⟨[], (List.append_nil _).symm, rfl⟩, List.isEmpty_iff.mp⟩
  case case2 s bs he => exact ⟨⟨[], (List.append_nil _).symm, (List.isEmpty_iff.mp he).symm⟩, fun _ => rfl⟩
  case case3 s bs he s' n hw h0 =>
    exact absurd (List.isEmpty_iff.mpr ((sinkWrite_ok_delivers hw).2 (beq_iff_eq.mp h0))) he
  case case4 s bs he s' n hw h0 ih =>
    obtain ⟨⟨wr, h1, h2⟩, h3⟩ := ih
    exact ⟨⟨bs.take n ++ wr, by rw [h1, (sinkWrite_ok_delivers hw).1, List.append_assoc],
      by rw [List.append_assoc, h2, List.take_append_drop]⟩, h3⟩
  case case5 s bs he s' hw ih => rwa [sinkWrite_stalled hw nofun] at ih
  case case6 s bs he s' hw => exact ⟨⟨[], by rw [sinkWrite_stalled hw nofun, List.append_nil], rfl⟩, nofun⟩

theorem sinkWriteAll_ok_delivers {ev : Nat → Ev} {fuel : Nat} {s s' : Sink} {bs rest : List Nat}
    (h : sinkWriteAll ev fuel s bs = (s', rest, true)) : s'.data = s.data ++ bs := by
  obtain ⟨⟨wr, h1, h2⟩, h3⟩ := sinkWriteAll_spec ev fuel s bs
  rw [h] at h1 h2 h3
  rw [h1, ← h2, h3 rfl, List.append_nil]

/-- `s0`: what the sink held when the writer was created; `acc`: what the writer has accepted since -/
def Inv (s0 : List Nat) (acc : List Nat) (w : BW) : Prop := w.inner.data ++ w.buf = s0 ++ acc

theorem Inv.buffer {s0 acc : List Nat} {w : BW} (h : Inv s0 acc w) (bs : List Nat) : Inv s0 (acc ++ bs) { w with buf := w.buf ++ bs } := by
  unfold Inv at h ⊢
  rw [← List.append_assoc, h, List.append_assoc]

theorem flushBuf_spec {ev : Nat → Ev} {fuel : Nat} {w w' : BW} {ok : Bool} {s0 acc : List Nat} (h : Inv s0 acc w)
    (hf : flushBuf ev fuel w = (w', ok)) : Inv s0 acc w' ∧ (ok = true → w'.buf = [] ∧ w'.inner.data = s0 ++ acc) := by
  obtain ⟨⟨wr, h1, h2⟩, h3⟩ := sinkWriteAll_spec ev fuel w.inner w.buf
  obtain ⟨rfl, rfl⟩ := Prod.mk.inj hf
  have hinv : Inv s0 acc (flushBuf ev fuel w).1 := by
    unfold Inv at h ⊢
    rw [flushBuf, h1, List.append_assoc, h2, h]
  refine ⟨hinv, fun hok => ⟨h3 hok, ?_⟩⟩
  unfold Inv at hinv
  rwa [show (flushBuf ev fuel w).1.buf = [] from h3 hok, List.append_nil] at hinv

theorem bwWriteAll_spec {ev : Nat → Ev} {fuel : Nat} {w w' : BW} {bs s0 acc : List Nat} (h : Inv s0 acc w)
    (hw : bwWriteAll ev fuel w bs = (w', true)) : Inv s0 (acc ++ bs) w' := by
  revert hw
  fun_cases bwWriteAll ev fuel w bs <;> intro hw <;> cases hw
  case case1 => exact h.buffer bs
  case case3 _ w1 hf _ => exact (flushBuf_spec h hf).1.buffer bs
  case case4 _ w1 hf _ s' rest hs =>
    obtain ⟨hb, hd⟩ := (flushBuf_spec h hf).2 rfl
    unfold Inv
    dsimp only
    rw [hb, List.append_nil, sinkWriteAll_ok_delivers hs, hd, List.append_assoc]

theorem bwChunks_spec {ev : Nat → Ev} {fuel : Nat} {chunks : List (List Nat)} {w w' : BW} {s0 acc : List Nat} (h : Inv s0 acc w)
    (hw : bwWriteChunks ev fuel w chunks = (w', true)) : Inv s0 (acc ++ chunks.flatten) w' := by
  revert hw
  fun_induction bwWriteChunks ev fuel w chunks generalizing acc <;> intro hw
  case case1 w => cases hw; rwa [List.flatten_nil, List.append_nil]
  case case2 w c r w1 hc => cases hw
  case case3 w c r w1 hc ih =>
    rw [List.flatten_cons, ← List.append_assoc]
    exact ih (bwWriteAll_spec h hc) hw

theorem sinkFlush_data (ev : Nat → Ev) (s : Sink) : (sinkFlush ev s).1.data = s.data := by
  unfold sinkFlush
  split <;> rfl

theorem bwFlush_spec {ev : Nat → Ev} {fuel : Nat} {w w' : BW} {s0 acc : List Nat} (h : Inv s0 acc w)
    (hw : bwFlush ev fuel w = (w', true)) : w'.inner.data = s0 ++ acc := by
  revert hw
  fun_cases bwFlush ev fuel w <;> intro hw <;> cases hw
  case case2 w1 hf s' hs => rw [← ((flushBuf_spec h hf).2 rfl).2, ← sinkFlush_data ev w1.inner, hs]

/-- **The in-place metadata write delivers or fails.**  For EVERY failure schedule of the underlying
    stream (any call failing, interrupted or short), every buffer capacity and every way the
    serialiser splits its output into writes: if the in-place write reports success, the stream holds
    exactly the old contents followed by every byte of the new blocks. -/
theorem inplace_ok_delivers (ev : Nat → Ev) (fuel : Nat) (sink : Sink) (cap : Nat) (chunks : List (List Nat)) (s' : Sink)
    (h : writeInPlaceImpl ev fuel sink cap chunks = (s', true)) : s'.data = sink.data ++ chunks.flatten := by
  have hflag : metaUpdateFlushes = true := rfl
  rw [writeInPlaceImpl, hflag] at h
  revert h
  fun_cases writeInPlace true ev fuel sink cap chunks <;> intro h <;> cases h
  case case2 w hw _ w' hf => exact bwFlush_spec (bwChunks_spec (w := { inner := sink, cap := cap }) (acc := []) rfl hw) hf
  case case3 w hw hn => exact absurd rfl hn

/-- `flush := false`, the writer dropped without a checked flush, does NOT have the property: one failing
    write is enough to report success with nothing delivered -/
theorem dropped_writer_loses_data :
    ∃ ev fuel sink cap chunks s', writeInPlace false ev fuel sink cap chunks = (s', true) ∧ s'.data ≠ sink.data ++ chunks.flatten := by
  refine ⟨fun _ => .fail, 5, {}, 8, [[1, 2, 3]], _, rfl, ?_⟩
  decide

/-- **Direct writes** (`write_blocks`, the encoder's frames and header rewrite go through `?` on every
    write): success means every byte arrived, for every failure schedule. -/
theorem direct_ok_delivers (ev : Nat → Ev) (fuel : Nat) (chunks : List (List Nat)) (s s' : Sink)
    (h : writeDirect ev fuel s chunks = (s', true)) : s'.data = s.data ++ chunks.flatten := by
  revert h
  fun_induction writeDirect ev fuel s chunks
  case case1 s => intro h; cases h; exact (List.append_nil _).symm
  case case2 s c r s1 rest hw => exact nofun
  case case3 s c r s1 rest hw ih => intro h; rw [ih h, sinkWriteAll_ok_delivers hw, List.flatten_cons, List.append_assoc]

/-- non-vacuity: with a cooperative stream the in-place write succeeds -/
example : (writeInPlaceImpl (fun _ => .take 3) 50 { data := [9] } 4 [[1, 2, 3], [4, 5, 6, 7, 8, 9]]).2 = true := by decide

end Flac.C13
