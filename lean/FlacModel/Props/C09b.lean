/-
  Props/C09b.lean — C09, last clause: when a seek table was written, regenerating one from the finished file with the
  same interval (`generate_seektable`) gives the same defined points.
-/
import FlacModel.Props.C09

namespace Flac.C09
open Flac

/-- `generate_seektable` on the finished file: one point per frame actually found (samples before it, bytes from the first
    frame, its block size), the interval filter, the cap of a SEEKTABLE block -/
def regenerate (iv : Interval) (rate : Nat) (fs : List (Nat × Nat)) : List SeekPt :=
  ((iv.filter rate (truePoints 0 0 fs)).take maxPoints).map toSeekPt

/-- the frame lengths of a stream of `total` samples cut into blocks of `bs` (what the writers produce) -/
def blocked (total bs : Nat) : Nat → Nat → List Nat
  | 0, _ => []
  | fuel+1, off => if off < total then min bs (total - off) :: blocked total bs fuel (off + bs) else []

/-- what the interval filters look at -/
def key (p : EncPoint) : Nat × Nat := (p.sample, p.len)

theorem blocked_of_le (total bs fuel off : Nat) (h : total ≤ off) : blocked total bs fuel off = [] := by
  cases fuel with
  | zero => rfl
  | succ k => exact if_neg (Nat.not_lt.mpr h)

theorem placeholders_of_le (total bs fuel off : Nat) (h : total ≤ off) : placeholders total bs fuel off = [] := by
  cases fuel with
  | zero => rfl
  | succ k => exact if_neg (Nat.not_lt.mpr h)

/-- the placeholder points computed from the declared total cover the same sample ranges as the frames later written -/
theorem placeholders_match (total bs : Nat) (fuel off b : Nat) (fs : List (Nat × Nat))
    (h : fs.map (·.1) = blocked total bs fuel off) :
    (truePoints off b fs).map key = (placeholders total bs fuel off).map key := by
  induction fuel generalizing off b fs with
  | zero => obtain rfl := List.map_eq_nil_iff.mp h; rfl
  | succ fuel ih =>
    rw [blocked] at h
    rw [placeholders]
    by_cases hlt : off < total
    · rw [if_pos hlt] at h ⊢
      obtain ⟨f, r, rfl, hf, hr⟩ := List.map_eq_cons_iff.mp h
      -- `rfl`: the regenerated rule `Gen.encPlaceholderLen bs r = min bs r` enters here and nowhere else
      have hhead : key ⟨off, b, f.1⟩ = key ⟨off, 0, Gen.encPlaceholderLen bs (total - off)⟩ := by rw [key, key, hf]; rfl
      rw [truePoints, List.map_cons, List.map_cons, hhead, hf]
      congr 1
      by_cases hfull : bs ≤ total - off
      · rw [Nat.min_eq_left hfull]
        exact ih (off + bs) (b + f.2) r hr
      · -- a short block is the last one
        have hend : total ≤ off + bs := by omega
        rw [blocked_of_le total bs fuel _ hend] at hr
        rw [List.map_eq_nil_iff.mp hr, placeholders_of_le total bs fuel _ hend]
        rfl
    · rw [if_neg hlt] at h ⊢
      obtain rfl := List.map_eq_nil_iff.mp h
      rfl

theorem secondsFilter_key (nth : Nat) (off : Nat) (ps qs : List EncPoint) (h : ps.map key = qs.map key) :
    (secondsFilter nth off ps).map key = (secondsFilter nth off qs).map key := by
  induction ps generalizing off qs with
  | nil => obtain rfl := List.map_eq_nil_iff.mp h.symm; rfl
  | cons p ps ih =>
    cases qs with
    | nil => simp at h
    | cons q qs =>
      obtain ⟨hpq, h3⟩ := List.cons.inj h
      obtain ⟨h1, h2⟩ := Prod.mk.inj hpq
      simp only [secondsFilter, h1, h2]
      split
      · rw [List.map_cons, List.map_cons, hpq, ih _ qs h3]
      · exact ih _ qs h3

theorem filter_length_key (iv : Interval) (rate : Nat) (ps qs : List EncPoint) (h : ps.map key = qs.map key) :
    (iv.filter rate ps).length = (iv.filter rate qs).length := by
  have hk : (iv.filter rate ps).map key = (iv.filter rate qs).map key := by
    cases iv with
    | seconds s => exact secondsFilter_key _ _ ps qs h
    | frames n => exact (stepBy_map key n 0 ps).symm.trans (h ▸ stepBy_map key n 0 qs)
  simpa only [List.length_map] using congrArg List.length hk

/-- **The table reserved from the declared total has exactly one slot per point the finished stream yields** (up to the cap):
    nothing is cut off and no placeholder is left over. -/
theorem reserved_slots_exact (iv : Interval) (rate total bs fuel : Nat) (fs : List (Nat × Nat))
    (h : fs.map (·.1) = blocked total bs fuel 0) :
    (iv.filter rate (placeholders total bs fuel 0)).length = (iv.filter rate (record Recorder.init fs).points).length := by
  rw [(seekpoints_invariant fs).1]
  exact (filter_length_key iv rate _ _ (placeholders_match total bs fuel 0 0 fs h)).symm

/-- **Declared total**: the table written at finalize into the slots reserved up front is the regenerated table. -/
theorem regenerated_equals_written_declared (iv : Interval) (rate total bs fuel : Nat) (fs : List (Nat × Nat))
    (h : fs.map (·.1) = blocked total bs fuel 0) (padding : Option Nat) :
    (finalizeLayout (some iv) rate (record Recorder.init fs).points
        (some (min maxPoints (iv.filter rate (placeholders total bs fuel 0)).length)) padding).1 = some (regenerate iv rate fs) := by
  have hl := reserved_slots_exact iv rate total bs fuel fs h
  simp only [finalizeLayout, regenerate, Option.some.injEq]
  rw [hl, ← (seekpoints_invariant fs).1]
  generalize iv.filter rate (record Recorder.init fs).points = xs
  -- the slots are all filled, and taking `min maxPoints |xs|` points is taking `maxPoints`
  rw [List.take_append_of_le_length (by rw [List.length_map]; exact Nat.min_le_right ..), ← List.map_take, ← List.take_eq_take_min]

/-- **Total discovered at finalize**: the table carved out of the padding (when it fits) is the regenerated table. -/
theorem regenerated_equals_written_padding (iv : Interval) (rate : Nat) (fs : List (Nat × Nat)) (pad : Nat) (t : List SeekPt)
    (h : (finalizeLayout (some iv) rate (record Recorder.init fs).points none (some pad)).1 = some t) :
    t = regenerate iv rate fs := by
  simp only [finalizeLayout] at h
  split at h
  · simp only [Option.some.injEq] at h
    rw [← h, regenerate, (seekpoints_invariant fs).1]
  · cases h

/-- every regenerated point is a defined point -/
theorem regenerate_defined (iv : Interval) (rate : Nat) (fs : List (Nat × Nat)) :
    ∀ p ∈ regenerate iv rate fs, ∃ s b l, p = .defined s b l := by
  intro p hp
  simp only [regenerate, List.mem_map] at hp
  obtain ⟨q, _, rfl⟩ := hp
  exact ⟨_, _, _, rfl⟩

/-- non-vacuity: 37 samples in blocks of 16, a point every second frame; two slots are reserved and both are filled -/
example : blocked 37 16 38 0 = [16, 16, 5] := by decide
example : (finalizeLayout (some (.frames 2)) 100 (record Recorder.init [(16, 20), (16, 21), (5, 9)]).points
    (some (min maxPoints ((Interval.frames 2).filter 100 (placeholders 37 16 38 0)).length)) (some 0)).1
    = some [.defined 0 0 16, .defined 32 41 5] := by decide

end Flac.C09
