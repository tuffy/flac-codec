/-
  Props/C08.lean — C08: the encoded file depends only on the PCM and the options, not on how the
  input was split across write calls or which front-end supplied it.

  The writer holds its total input cut into blocks of `F` units and a remainder shorter than `F` (`Inv`); such a cut is
  unique (`decomposition_unique`), so two call histories with the same total input leave the same state.
-/
import FlacModel.Model.Writers
import FlacModel.Proofs.ListAux

namespace Flac.C08
open Flac

/-- the writer's invariant against the total input so far -/
def Inv (F : Nat) (inp : List α) (w : Wr α) : Prop :=
  inp = w.blocks.flatten ++ w.buf ∧ (∀ b ∈ w.blocks, b.length = F) ∧ w.buf.length < F

theorem splitFull_spec (F : Nat) (hF : 0 < F) (fuel : Nat) (l : List α) (hf : l.length ≤ fuel) :
    l = (splitFull F fuel l).1.flatten ++ (splitFull F fuel l).2
    ∧ (∀ b ∈ (splitFull F fuel l).1, b.length = F) ∧ (splitFull F fuel l).2.length < F := by
  fun_induction splitFull F fuel l
  case case1 l =>
    obtain rfl : l = [] := List.length_eq_zero_iff.mp (Nat.le_zero.mp hf)
    exact ⟨rfl, nofun, hF⟩
  case case2 n l h ih =>
    obtain ⟨e1, e2, e3⟩ := ih (by rw [List.length_drop]; omega)
    refine ⟨?_, List.forall_mem_cons.mpr ⟨List.length_take_of_le h, e2⟩, e3⟩
    rw [List.flatten_cons, List.append_assoc, ← e1, List.take_append_drop]
  case case3 n l h => exact ⟨rfl, nofun, Nat.lt_of_not_le h⟩

/-- blocks of length `F` followed by a remainder shorter than `F` determine each other -/
theorem decomposition_unique (F : Nat) (B1 B2 : List (List α)) (r1 r2 : List α)
    (h : B1.flatten ++ r1 = B2.flatten ++ r2) (h1 : ∀ b ∈ B1, b.length = F) (h2 : ∀ b ∈ B2, b.length = F)
    (l1 : r1.length < F) (l2 : r2.length < F) : B1 = B2 ∧ r1 = r2 := by
  induction B1 generalizing B2 with
  | nil =>
    cases B2 with
    | nil => exact ⟨rfl, h⟩
    | cons b bs =>   -- the left side is shorter than `b`
      have := congrArg List.length h
      simp [h2 b (by simp)] at this; omega
  | cons a as ih =>
    cases B2 with
    | nil =>
      have := congrArg List.length h
      simp [h1 a (by simp)] at this; omega
    | cons b bs =>
      rw [List.forall_mem_cons] at h1 h2
      simp only [List.flatten_cons, List.append_assoc] at h
      obtain ⟨rfl, h'⟩ := List.append_inj h (h1.1.trans h2.1.symm)
      obtain ⟨rfl, rfl⟩ := ih bs h' h1.2 h2.2
      exact ⟨rfl, rfl⟩

theorem init_inv (F : Nat) (hF : 0 < F) : Inv F ([] : List α) Wr.init := ⟨rfl, nofun, hF⟩

theorem write_inv (F : Nat) (hF : 0 < F) (inp xs : List α) (w : Wr α) (h : Inv F inp w) :
    Inv F (inp ++ xs) (w.write F xs) := by
  obtain ⟨e, hb, _⟩ := h
  obtain ⟨s1, s2, s3⟩ := splitFull_spec F hF (w.buf ++ xs).length (w.buf ++ xs) (Nat.le_refl _)
  refine ⟨?_, fun b hbm => (List.mem_append.mp hbm).elim (hb b) (s2 b), s3⟩
  simp only [Wr.write, List.flatten_append, List.append_assoc]
  rw [← s1, e, List.append_assoc]

theorem write_init_inv (F : Nat) (hF : 0 < F) (xs : List α) : Inv F xs ((Wr.init : Wr α).write F xs) :=
  write_inv F hF [] xs Wr.init (init_inv F hF)

theorem writes_inv (F : Nat) (hF : 0 < F) (ws : List (List α)) (inp : List α) (w : Wr α) (h : Inv F inp w) :
    Inv F (inp ++ ws.flatten) (ws.foldl (Wr.write F) w) := by
  induction ws generalizing inp w with
  | nil => simpa using h
  | cons x xs ih =>
    rw [List.foldl_cons, List.flatten_cons, ← List.append_assoc]
    exact ih (inp ++ x) (w.write F x) (write_inv F hF inp x w h)

theorem Inv.unique {F : Nat} {inp : List α} {w₁ w₂ : Wr α} (h1 : Inv F inp w₁) (h2 : Inv F inp w₂) : w₁ = w₂ := by
  obtain ⟨buf₁, blocks₁⟩ := w₁
  obtain ⟨buf₂, blocks₂⟩ := w₂
  obtain ⟨rfl, rfl⟩ := decomposition_unique F _ _ _ _ (h1.1.symm.trans h2.1) h1.2.1 h2.2.1 h1.2.2 h2.2.2
  rfl

/-- chunking independence as proofs use it: the two states are equal (`writer_chunking_indep` says so field by field) -/
theorem foldl_write_eq (F : Nat) (hF : 0 < F) (ws : List (List α)) :
    ws.foldl (Wr.write F) Wr.init = (Wr.init : Wr α).write F ws.flatten :=
  (writes_inv F hF ws [] Wr.init (init_inv F hF)).unique (write_init_inv F hF ws.flatten)

/-- **writer_chunking_indep** — for EVERY partition of the input into write calls (including calls
    that end mid-sample or mid-PCM-frame) the blocks handed to the encoder and the carry-over are
    those of a single call with the concatenated input -/
theorem writer_chunking_indep (F : Nat) (hF : 0 < F) (ws : List (List α)) :
    (ws.foldl (Wr.write F) Wr.init).blocks = ((Wr.init : Wr α).write F ws.flatten).blocks
    ∧ (ws.foldl (Wr.write F) Wr.init).buf = ((Wr.init : Wr α).write F ws.flatten).buf := by
  rw [foldl_write_eq F hF]
  exact ⟨rfl, rfl⟩

/-- hence the complete block list after `finalize` is independent of the chunking too -/
theorem finalize_chunking_indep (F q : Nat) (hF : 0 < F) (ws : List (List α)) :
    (ws.foldl (Wr.write F) Wr.init).finalize q = ((Wr.init : Wr α).write F ws.flatten).finalize q := by
  rw [foldl_write_eq F hF]

/-- all that `finalize` encodes: the blocks, then the whole PCM frames of the carry-over -/
theorem finalize_flatten (q : Nat) (w : Wr α) :
    (w.finalize q).flatten = w.blocks.flatten ++ w.buf.take (w.buf.length - w.buf.length % q) := by
  unfold Wr.finalize
  split
  next h => rw [List.isEmpty_iff.mp h, List.append_nil]
  next => rw [List.flatten_append, List.flatten_singleton]

/-- the final block is added only if it is not empty -/
theorem mem_finalize {q : Nat} {w : Wr α} {b : List α} (h : b ∈ w.finalize q) : b ∈ w.blocks ∨ b ≠ [] := by
  unfold Wr.finalize at h
  split at h
  next => exact .inl h
  next hne =>
    refine (List.mem_append.mp h).imp_right fun hb e => hne ?_
    rw [← List.mem_singleton.mp hb, e]; rfl

/-- every unit of a block the writer makes was in its input -/
theorem mem_of_mem_finalize {F q : Nat} {inp : List α} {w : Wr α} (h : Inv F inp w) {b : List α} {x : α}
    (hb : b ∈ w.finalize q) (hx : x ∈ b) : x ∈ inp := by
  have hm : x ∈ (w.finalize q).flatten := List.mem_flatten.mpr ⟨b, hb, hx⟩
  rw [finalize_flatten] at hm
  rw [h.1]
  exact List.mem_append.mpr ((List.mem_append.mp hm).imp_right List.mem_of_mem_take)

/-- **partial_pcm_frame_dropped**: what is encoded in total is the input truncated to whole PCM
    frames (`q` units), provided a block is a whole number of PCM frames (`q ∣ F`); a trailing
    partial PCM frame is dropped, and nothing at all is encoded for it (no empty block). -/
theorem partial_pcm_frame_dropped (F q : Nat) (hF : 0 < F) (hq : 0 < q) (hdiv : q ∣ F) (inp : List α) (w : Wr α)
    (h : Inv F inp w) :
    (w.finalize q).flatten = inp.take (inp.length - inp.length % q) ∧ (∀ b ∈ w.finalize q, b ≠ []) := by
  obtain ⟨e, hb, -⟩ := h
  refine ⟨?_, fun b hbm => (mem_finalize hbm).elim (fun h1 hnil => ?_) id⟩
  · -- the blocks are whole PCM frames, so the input and the carry-over leave the same partial frame
    obtain ⟨k, rfl⟩ := hdiv
    have hB : w.blocks.flatten.length = q * (k * w.blocks.length) := by
      rw [← List.flatMap_id, length_flatMap_const (q * k) id _ hb, Nat.mul_assoc]
    rw [finalize_flatten, e, List.length_append, hB, Nat.mul_add_mod_self_left, Nat.add_sub_assoc (Nat.mod_le _ _), ← hB,
      List.take_length_add_append]
  · exact Nat.ne_of_lt hF ((congrArg List.length hnil).symm.trans (hb b h1))   -- a block has `F > 0` units

/-- non-vacuity: three calls that split a 7-sample stereo input at odd places, block of 2 PCM
    frames: two full blocks, then a final block of one PCM frame, the 7th sample dropped -/
example : ([[1], [2, 3, 4, 5], [6, 7]].foldl (Wr.write 4) (Wr.init : Wr Nat)).finalize 2 = [[1, 2, 3, 4], [5, 6]] := by decide

end Flac.C08
