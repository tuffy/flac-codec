/-
  Props/C12.lean — metadata and auxiliary parsers are total: no panic in either build profile.
-/
import FlacModel.Model.MetaOps
import FlacModel.Proofs.Machine

namespace Flac.C12
open Flac Flac.Gen

def NoPanic {α} (r : Res α) : Prop := ∀ m, r ≠ .error (.panic m)

theorem np_ok {α} (a : α) : NoPanic (.ok a : Res α) := by intro m h; cases h
theorem np_err {α} (c : String) : NoPanic (.error (.err c) : Res α) := by intro m h; cases h
theorem np_eof {α} : NoPanic (.error .eof : Res α) := by intro m h; cases h

theorem NoPanic.error {α β} {x : Res α} (hx : NoPanic x) {e : Fail} (h : x = .error e) : NoPanic (.error e : Res β) :=
  fun m hm => hx m (h.trans (congrArg _ (Except.error.inj hm)))

/- The functions of this file are shown panic-free leaf by leaf: `fun_cases f ..` (or `fun_induction` for the fuelled loops) puts
   `NoPanic` on every result expression of `f`, and each is a value (`np_ok`), a literal error (`np_err`), a callee's result,
   or an error `e` handed on from a callee, with the equation `callee = .error e` at hand (`NoPanic.error`). -/

/-- `duration()` never divides by zero: a sample rate of 0 yields `None`. -/
theorem duration_no_panic (si : Streaminfo) : NoPanic (duration si) := by
  fun_cases duration si
  case case3 h => exact absurd rfl h   -- the flag regenerated from the source is `true`
  all_goals exact np_ok _

theorem accAdd_ok (p : Profile) (a b : Nat) : accAdd p a b = .ok (satAdd a b) := by
  have : cueAccessorsSaturate = true := rfl
  simp only [accAdd, this, ↓reduceIte]

theorem accMul_ok (p : Profile) (a b : Nat) : accMul p a b = .ok (satMul a b) := by
  have : cueAccessorsSaturate = true := rfl
  simp only [accMul, this, ↓reduceIte]

theorem mapRes_np {α β} (f : α → Res β) (l : List α) (h : ∀ a, NoPanic (f a)) : NoPanic (mapRes f l) := by
  fun_induction mapRes f l
  · exact np_ok _
  · exact (h _).error ‹_›
  · rename_i ih; exact ih.error ‹_›
  · exact np_ok _

theorem mapRes_map_ok {α β γ} {f : β → Res γ} {k : α → β} {g : α → γ} {l : List α} (h : ∀ a ∈ l, f (k a) = .ok (g a)) :
    mapRes f (l.map k) = .ok (l.map g) := by
  induction l with
  | nil => rfl
  | cons x r ih => simp only [List.map_cons, mapRes, h x (by simp), ih fun a ha => h a (by simp [ha])]

/-- `track_sample_ranges` on any cue sheet value, in either profile. -/
theorem trackRanges_no_panic (p : Profile) (c : Cue) : NoPanic (trackRanges p c) := by
  have : NoPanic (trackOffsets p c) := by
    fun_cases trackOffsets p c
    · exact (mapRes_np _ _ fun t => accAdd_ok p .. ▸ np_ok _).error ‹_›
    · exact np_ok _
  fun_cases trackRanges p c
  · exact this.error ‹_›
  · exact np_ok _

/-- `track_byte_ranges` for any channel count and depth. -/
theorem trackByteRanges_no_panic (p : Profile) (c : Cue) (ch bps : Nat) : NoPanic (trackByteRanges p c ch bps) := by
  fun_cases trackByteRanges p c ch bps
  · exact (trackRanges_no_panic p c).error ‹_›
  · refine mapRes_np _ _ fun r => ?_
    simp only [accMul_ok]
    exact np_ok _

/-- `display()` (text export) on any cue sheet value. -/
theorem cueDisplay_no_panic (p : Profile) (c : Cue) (fname : List Nat) : NoPanic (cueDisplay p c fname) := by
  fun_cases cueDisplay p c fname
  · refine (mapRes_np _ c.tracks fun t => ?_).error ‹_›
    split
    · refine (mapRes_np _ t.points fun i => ?_).error ‹_›
      simp only [accAdd_ok]
      exact np_ok _
    · exact np_ok _
  · exact np_ok _

/-- with the wide (32-bit) product selected nothing can trap; each caller says which regenerated flag selects it -/
theorem depthMul_np {wide : Bool} (hw : wide = true) (p : Profile) (site : String) (a b : Nat) : NoPanic (depthMul wide p site a b) := by
  subst hw; exact np_ok _

theorem rd_np (n : Nat) (b : List Nat) : NoPanic (rd n b) := by
  fun_cases rd n b
  · exact np_err _
  · exact np_ok _

theorem rd_rest_len {n : Nat} {b x r : List Nat} (h : rd n b = .ok (x, r)) : r.length + n = b.length := by
  revert h
  fun_cases rd n b <;> intro h <;> cases h
  rw [List.length_drop]; omega

theorem plteColors_np (fuel : Nat) (b : List Nat) : NoPanic (plteColors fuel b) := by
  fun_induction plteColors fuel b
  case case6 ih => exact ih   -- the round that goes on to the next chunk
  all_goals first | exact np_ok _ | exact np_err _ | exact (rd_np _ _).error ‹_›

/-- the palette scan does not depend on its fuel once the fuel exceeds the input length: the
    recursion is bounded by the data, every round consuming at least 12 bytes -/
theorem plteColors_fuel (f1 f2 : Nat) (b : List Nat) (h1 : b.length < f1) (h2 : b.length < f2) : plteColors f1 b = plteColors f2 b := by
  fun_induction plteColors f1 b generalizing f2
  case case1 => omega   -- `f1` is not zero
  all_goals (obtain _ | f2 := f2; · exact absurd ‹_ < 0› (Nat.not_lt_zero _))   -- nor is `f2`
  case case6 fuel b h r hr hne _ r2 hr2 ih =>
    -- the one round that goes on: it has consumed input, so both fuels still exceed what is left
    have := rd_rest_len hr
    have := rd_rest_len hr2
    simp only [plteColors, hr, hne, hr2, ↓reduceIte, Bool.false_eq_true]
    exact ih f2 (by omega) (by omega)
  -- every other round ends at once, in the same leaf on both sides
  all_goals simp only [plteColors, *, ↓reduceIte, Bool.false_eq_true]

theorem jpegLoop_np (p : Profile) (fuel : Nat) (b : List Nat) : NoPanic (jpegLoop p fuel b) := by
  fun_induction jpegLoop p fuel b
  case case6 => exact (depthMul_np (rfl : picJpegDepthWide = true) _ _ _ _).error ‹_›   -- a frame header: precision × components
  case case11 ih => exact ih   -- the round that goes on to the next segment
  all_goals first | exact np_ok _ | exact np_err _ | exact (rd_np _ _).error ‹_›

theorem jpegLoop_fuel (p : Profile) (f1 f2 : Nat) (b : List Nat) (h1 : b.length < f1) (h2 : b.length < f2) :
    jpegLoop p f1 b = jpegLoop p f2 b := by
  fun_induction jpegLoop p f1 b generalizing f2
  case case1 => omega
  all_goals (obtain _ | f2 := f2; · exact absurd ‹_ < 0› (Nat.not_lt_zero _))
  case case11 fuel b ff r0 hr0 hff m r1 hr1 hsof l r2 hr2 hl _ r3 hr3 ih =>
    -- as in `plteColors_fuel`: the one round that goes on has consumed input
    have := rd_rest_len hr0
    have := rd_rest_len hr1
    have := rd_rest_len hr2
    have := rd_rest_len hr3
    simp only [jpegLoop, hr0, hff, hr1, hsof, hr2, hl, hr3, ↓reduceIte, Bool.false_eq_true]
    exact ih f2 (by omega) (by omega)
  all_goals simp only [jpegLoop, *, ↓reduceIte, Bool.false_eq_true]

theorem tryPng_np (p : Profile) (b : List Nat) : NoPanic (tryPng p b) := by
  fun_cases tryPng p b
  case case9 | case13 | case15 =>   -- colour types 2, 4, 6: depth × samples per pixel
    exact (depthMul_np (rfl : picPngDepthWide = true) _ _ _ _).error ‹_›
  case case11 => exact (plteColors_np _ _).error ‹_›   -- colour type 3: the palette scan
  all_goals first | exact np_ok _ | exact np_err _ | exact (rd_np _ _).error ‹_›

theorem tryJpeg_np (p : Profile) (b : List Nat) : NoPanic (tryJpeg p b) := by
  fun_cases tryJpeg p b
  all_goals first | exact np_err _ | exact (rd_np _ _).error ‹_› | exact jpegLoop_np _ _ _

theorem tryGif_np (b : List Nat) : NoPanic (tryGif b) := by
  fun_cases tryGif b
  all_goals first | exact np_ok _ | exact np_err _ | exact (rd_np _ _).error ‹_›

/-- `Picture::new` on ANY byte string, in either build profile, returns metrics or an error. -/
theorem sniff_no_panic (p : Profile) (b : List Nat) : NoPanic (sniff p b) := by
  fun_cases sniff p b
  · exact tryPng_np p b
  · exact tryJpeg_np p b
  · exact tryGif_np b
  · exact np_err _

/-- with the checked conversion, `CDDAOffset::from_str` never traps and never exceeds 64 bits -/
theorem parseMsf_ok (p : Profile) (l : List Char) : ∃ v, parseMsf p l = .ok v ∧ ∀ o, v = some o → o < 2 ^ 64 := by
  fun_cases parseMsf p l
  case case8 hle =>   -- the checked conversion yields an offset: it has just been compared with `u64::MAX`
    exact ⟨_, rfl, fun o ho => by cases ho; simp only [u64Max] at hle; omega⟩
  -- every other leaf yields no offset, or lies behind the unchecked conversion (`cueOffsetChecked`, regenerated, is `true`)
  all_goals first | exact ⟨none, rfl, nofun⟩ | exact absurd (rfl : cueOffsetChecked = true) ‹_›

theorem parseUnsigned_lt {bits : Nat} {l : List Char} {v : Nat} (h : parseUnsigned bits l = some v) : v < 2 ^ bits := by
  revert h
  fun_cases parseUnsigned bits l <;> intro h <;> cases h
  assumption

/-- what `stepTok` needs of a classified line: it carries no trap, and the offset of an `INDEX` line fits 64 bits -/
def tokOk : Tok → Prop
  | .trap _ => False
  | .index _ (some o) => o < 2 ^ 64
  | _ => True

theorem classifyIndex_tokOk (p : Profile) (cdda : Bool) (rest : List Char) : tokOk (classifyIndex p cdda rest) := by
  fun_cases classifyIndex p cdda rest
  case case3 h => obtain ⟨v, hv, -⟩ := parseMsf_ok p _; cases h.symm.trans hv   -- CD-DA, `parseMsf` fails: it does not
  case case4 ov h =>   -- CD-DA, MM:SS:FF
    obtain ⟨v, hv, hb⟩ := parseMsf_ok p _
    cases h.symm.trans hv
    cases ov with
    | none => exact True.intro
    | some o => exact hb _ rfl
  case case5 _ o _ _ _ _ =>   -- not CD-DA: a sample count
    cases h : parseUnsigned 64 o with
    | none => exact True.intro
    | some v => exact parseUnsigned_lt h
  all_goals exact True.intro

theorem classify_tokOk (p : Profile) (cdda : Bool) (line : List Char) : tokOk (classify p cdda line) := by
  -- only an `INDEX` line carries an offset (`exact True.intro`, not `trivial`: the latter tries to decide the comparisons)
  fun_cases classify p cdda line
  all_goals first | exact classifyIndex_tokOk p cdda _ | exact True.intro

/-- `r` is no panic, and a value it yields satisfies `P`: what a step of a loop owes for `P` to be its invariant -/
def Keeps {α} (P : α → Prop) (r : Res α) : Prop := NoPanic r ∧ ∀ a, r = .ok a → P a

theorem Keeps.ok {α} {P : α → Prop} {a : α} (h : P a) : Keeps P (.ok a) := ⟨np_ok _, fun _ e => Except.ok.inj e ▸ h⟩
theorem Keeps.err {α} {P : α → Prop} (c : String) : Keeps P (.error (.err c)) := ⟨np_err _, nofun⟩
theorem Keeps.error {α β} {P : β → Prop} {x : Res α} (hx : NoPanic x) {e : Fail} (h : x = .error e) : Keeps P (.error e) :=
  ⟨hx.error h, nofun⟩

theorem finishWip_np (w : Wip) : NoPanic (finishWip w) := by
  fun_cases finishWip w
  all_goals first | exact np_ok _ | exact np_err _

theorem pushTrack_np (max : Nat) (ts : List CTrack) (t : CTrack) : NoPanic (pushTrack max ts t) := by
  fun_cases pushTrack max ts t
  all_goals first | exact np_ok _ | exact np_err _

/-- index numbers in a work-in-progress track never exceed the number of points pushed so far, so
    the 8-bit `previous.number + 1` cannot overflow while there is room for another point -/
def chainInv (pts : List CIndex) : Prop := ∀ q, pts.getLast? = some q → q.number ≤ pts.length

theorem chainInv_nil : chainInv [] := fun _ h => nomatch h

theorem chainInv_concat {pts : List CIndex} {i : CIndex} (h : i.number ≤ pts.length + 1) : chainInv (pts ++ [i]) := by
  intro q hq
  obtain rfl := Option.some.inj (List.getLast?_concat.symm.trans hq)
  rwa [List.length_append]

theorem pushIndex_np (p : Profile) (max : Nat) (hmax : max ≤ 255) (pts : List CIndex) (i : CIndex) (hi : chainInv pts) :
    NoPanic (pushIndex p max pts i) ∧ ∀ pts', pushIndex p max pts i = .ok pts' → chainInv pts' := by
  show Keeps chainInv _
  fun_cases pushIndex p max pts i
  case case1 _ hl hc =>   -- the first point: number 0 or 1
    simp only [Bool.and_eq_true, Bool.or_eq_true, beq_iff_eq] at hc
    exact .ok (chainInv_concat (by omega))
  case case3 _ q hl _ e he =>
    -- the one trap: `previous.number + 1` in 8 bits; `chainInv` keeps it below the capacity
    have hq := hi q hl
    cases (addU_ok p 8 _ (show q.number + 1 < 2 ^ 8 by omega)).symm.trans he
  case case4 _ q hl _ n hn he =>   -- a later point: the successor of the last number
    have hq := hi q hl
    cases (addU_ok p 8 _ (show q.number + 1 < 2 ^ 8 by omega)).symm.trans hn
    simp only [beq_iff_eq] at he
    exact .ok (chainInv_concat (by omega))
  all_goals exact .err _

def stateInv (s : PState) : Prop := ∀ w, s.wip = some w → chainInv w.points

theorem indexMax_le (cdda : Bool) : (if cdda then cueCddaIndexMax else cueNonCddaIndexMax) ≤ 255 := by
  cases cdda <;> decide

theorem stepTok_keeps (p : Profile) (cdda : Bool) (s : PState) (t : Tok) (ht : tokOk t) (hs : stateInv s) :
    Keeps stateInv (stepTok p cdda s t) := by
  have hpush (w : Wip) (hw : s.wip = some w) (i : CIndex) := pushIndex_np p _ (indexMax_le cdda) w.points i (hs w hw)
  revert ht
  fun_cases stepTok p cdda s t <;> intro ht
  case case1 => exact ht.elim   -- a trap: `tokOk` rules it out
  -- an unknown line, CATALOG: `wip` is untouched
  case case2 => exact .ok hs
  case case6 => exact .ok hs
  -- TRACK: the track in progress, if any, is closed; a fresh one starts without points
  case case8 => exact .ok fun _ hw => by cases hw; exact chainInv_nil
  case case9 he => exact .error (finishWip_np _) he
  case case10 he => exact .error (pushTrack_np _ _ _) he
  case case11 => exact .ok fun _ hw => by cases hw; exact chainInv_nil
  -- the first INDEX of a track: a point is pushed
  case case16 _ _ _ w hw _ _ _ he => exact .error (hpush w hw _).1 he
  case case17 _ _ _ w hw _ _ pts he => exact .ok fun _ h => by cases h; exact (hpush w hw _).2 _ he
  -- a later INDEX: `offset - track_offset` in 64 bits, then a point is pushed
  case case19 _ o _ _ to _ hge e he =>
    -- the other trap; the guard before it (regenerated, in force) excludes `offset < track_offset`
    have : cueIndexBeforeTrackIsError = true := rfl
    simp only [this, Bool.true_and, decide_eq_true_eq, Nat.not_lt] at hge
    cases (subU_ok p 64 _ hge (show o < 2 ^ 64 from ht)).symm.trans he
  case case20 _ _ _ w hw _ _ _ _ _ _ he => exact .error (hpush w hw _).1 he
  case case21 _ _ _ w hw _ _ _ _ _ pts he => exact .ok fun _ h => by cases h; exact (hpush w hw _).2 _ he
  -- ISRC, FLAGS PRE: the points are kept
  case case26 w hw _ _ _ => exact .ok fun _ h => by cases h; exact hs w hw
  case case29 w hw _ => exact .ok fun _ h => by cases h; exact hs w hw
  all_goals exact .err _   -- the refusals

theorem runToks_np (p : Profile) (cdda : Bool) (toks : List Tok) (ht : ∀ t ∈ toks, tokOk t) (s : PState) (hs : stateInv s) :
    NoPanic (runToks p cdda s toks) := by
  fun_induction runToks p cdda s toks
  case case1 => exact np_ok _
  case case2 s t r e he => exact (stepTok_keeps p cdda s t (ht t List.mem_cons_self) hs).1.error he
  case case3 s t r s' he ih =>
    exact ih (fun q hq => ht q (List.mem_cons_of_mem _ hq)) ((stepTok_keeps p cdda s t (ht t List.mem_cons_self) hs).2 s' he)

theorem finishParse_np (cdda : Bool) (total : Nat) (s : PState) : NoPanic (finishParse cdda total s) := by
  fun_cases finishParse cdda total s
  case case2 => exact (finishWip_np _).error ‹_›
  case case3 => exact (pushTrack_np _ _ _).error ‹_›
  all_goals first | exact np_ok _ | exact np_err _

/-- `Cuesheet::parse` on ANY text and stream length, in either build profile, returns a cue sheet
    or an error: the offset subtraction, the MM:SS:FF conversion and the 8-bit index-number
    successor cannot trap. -/
theorem cueParse_no_panic (p : Profile) (total : Nat) (text : List Char) : NoPanic (cueParse p total text) := by
  unfold cueParse interp
  dsimp only
  split
  · refine (runToks_np p _ _ ?_ {} nofun).error ‹_›
    intro t ht
    obtain ⟨l, -, rfl⟩ := List.mem_map.mp ht
    exact classify_tokOk p _ l
  · exact finishParse_np _ total _

end Flac.C12
