/-
  Props/C17b.lean — C17, main statement: every frame the structural parser accepts (with valid checksums) is the
  serialization of a well-formed frame - writing the parsed structure back yields the bytes that were read - and
  its samples are what the streaming decoder returns for the same bytes.
  In the statements `parseFrame layout cw si bytes` leaves its last argument at the default `enforceCrc8 := true`: a header
  with a bad CRC-8 is an error, which is why only the CRC-16 verdict appears as a hypothesis.  The Boolean in sight (`cw`, or
  `true` in `decoder_accepts_implies_parser`) is `checkWarm`, the streaming decoder's test `order ≤ block size` ahead of the warm-up samples.
-/
import FlacModel.Props.C17
import FlacModel.Proofs.Local
import FlacModel.Proofs.CrcEq

namespace Flac.C17
open Flac Gen

/-- the bits a successful parse has walked: header `H` (whole bytes), subframes `S`, the padding up to the byte boundary,
    footer `F`.  The padding is what aligns the subframes, and is shorter than a byte. -/
theorem padded_layout (bytes : List Nat) (H S F rest rest2 rest3 : Bits) (hH : H.length % 8 = 0)
    (e1 : bytesToBits bytes = H ++ rest) (e3 : rest = S ++ rest2) (e4 : rest2.drop (rest2.length % 8) = F ++ rest3) :
    bytesToBits bytes = (H ++ ((S ++ rest2.take (rest2.length % 8)) ++ F)) ++ rest3
      ∧ (S.length + (rest2.take (rest2.length % 8)).length) % 8 = 0 ∧ (rest2.take (rest2.length % 8)).length < 8 := by
  have hpad : (rest2.take (rest2.length % 8)).length = rest2.length % 8 := List.length_take_of_le (Nat.mod_le _ _)
  refine ⟨?_, ?_, by rw [hpad]; exact Nat.mod_lt _ (by decide)⟩
  · rw [e1, e3]
    conv => lhs; rw [← List.take_append_drop (rest2.length % 8) rest2, e4]
    simp only [List.append_assoc]
  · have l1 := congrArg List.length e1
    rw [bytesToBits_length, e3, List.length_append, List.length_append] at l1
    rw [hpad]; omega

/-- **Re-serialisation.**  Whatever bytes the structural parser accepts as a frame with both checksums valid
    (depth ≤ 32), the parsed structure is a well-formed frame and writing it back gives exactly the bytes consumed. -/
theorem parse_reserializes (cw : Bool) (si : Option SInfo) (bytes : List Nat) (hb : ∀ x ∈ bytes, x < 256) (pr : Parsed)
    (h : parseFrame decLayout cw si bytes = .ok pr) (h16 : pr.crc16ok = true) (hbps : pr.frame.hdr.bps ≤ 32) :
    pr.frame.serialize = bytes.take pr.used ∧ FrameWf si pr.frame := by
  obtain ⟨hd, rest, subs, rest2, c16, rest3, g1, g2, c8ok, g3, g4, rfl⟩ := parseFrame_ok_iff.mp h
  replace c8ok := crc8Valid_eq_zero _ (c8ok rfl)
  replace h16 := crc16Valid_eq_zero _ h16
  dsimp only at h16 hbps ⊢
  -- what was read, piece by piece, is what the writers write
  obtain ⟨wH, e1⟩ := readHeaderFields_sound g1
  obtain ⟨⟨l3, w3⟩, e3⟩ := readSubframes_sound decLayout_sum.fits g3
  obtain ⟨q4, e4⟩ := readU_ok_iff.mp g4
  have hH8 := writeHeaderFields_len8 si hd wH
  have hH := hdr_aligned _ hd.hcrc hH8
  obtain ⟨ebits, hal, hpad⟩ := padded_layout bytes _ _ _ rest rest2 rest3 hH e1 e3 e4
  have hsb : (writeSubframes hd.assign hd.bps subs 0 ++ rest2.take (rest2.length % 8)).length % 8 = 0 := by
    rw [List.length_append]; exact hal
  -- the header bytes; a valid CRC-8 over them pins the stored checksum
  rw [take_consumed bytes hb _ rest e1 hH, bitsToBytes_hdr _ _ hH8 wH.hcrc] at c8ok
  have hcrc : hd.hcrc = crc8 (bitsToBytes (writeHeaderFields hd)) := crc8_pins _ _ wH.hcrc c8ok
  -- all bytes of the frame (the byte layout of Proofs/Codec.lean); a valid CRC-16 over them pins the footer
  have hall := take_consumed bytes hb _ rest3 ebits (frame_aligned _ _ _ _ hH8 hsb)
  rw [bitsToBytes_frame _ _ _ _ hH8 hsb wH.hcrc q4] at hall
  rw [hall] at h16
  obtain ⟨p1, p2⟩ := crc16_pins _ (c16 / 256) (c16 % 256) (Nat.div_lt_of_lt_mul q4) (Nat.mod_lt _ (by decide)) h16
  refine ⟨?_, { hdr := wH, hcrc := hcrc, check := g2, bps := hbps, count := l3, subs := w3, padLt := hpad, aligned := hal }⟩
  rw [hall]
  simp only [Frame.serialize, Frame.serializeWith, ← hcrc]
  rw [← p1, ← p2]

/-- the same for the structural parser's own partition rule (the two rules are the same function: `layouts_agree`) -/
theorem struct_parse_reserializes (cw : Bool) (si : Option SInfo) (bytes : List Nat) (hb : ∀ x ∈ bytes, x < 256) (pr : Parsed)
    (h : parseFrame structLayout cw si bytes = .ok pr) (h16 : pr.crc16ok = true) (hbps : pr.frame.hdr.bps ≤ 32) :
    pr.frame.serialize = bytes.take pr.used ∧ FrameWf si pr.frame := by
  rw [structLayout_eq_decLayout] at h
  exact parse_reserializes cw si bytes hb pr h h16 hbps

/-- **The parsed structure's samples are the streaming decoder's samples.**  If the structural parser accepts a frame
    (checksums valid) and its subframes expand (in the arithmetic of profile `p`) to `xss`, which channel reconstruction
    turns into `out`, then the streaming decoder accepts the same bytes, consumes the same number of them, and returns
    exactly `out` - whatever follows the frame. -/
theorem parse_agrees_with_decoder (p : Profile) (cw : Bool) (si : Option SInfo) (bytes : List Nat) (hb : ∀ x ∈ bytes, x < 256)
    (pr : Parsed) (xss out : List (List Int))
    (h : parseFrame structLayout cw si bytes = .ok pr) (h16 : pr.crc16ok = true) (hbps : pr.frame.hdr.bps ≤ 32)
    (hx : subsDecode p pr.frame.hdr.assign pr.frame.hdr.blockSize pr.frame.hdr.bps pr.frame.subs xss 0)
    (hr : recorrelate p pr.frame.hdr.assign pr.frame.hdr.bps xss = .ok out) :
    decodeFrame p si bytes = .ok { hdr := pr.frame.hdr, channels := out, used := (bytes.take pr.used).length } := by
  obtain ⟨e, w⟩ := struct_parse_reserializes cw si bytes hb pr h h16 hbps
  have := decodeFrame_serialize p si pr.frame xss out w hx hr
  rw [e] at this
  have := decodeFrame_ext p si _ _ this (bytes.drop pr.used)
  rwa [List.take_append_drop] at this

/-- **Same acceptance.**  Every frame the streaming decoder accepts, the structural parser accepts too (same STREAMINFO
    context, with the warm-up guard), with both checksums valid, the same header and the same extent. -/
theorem decoder_accepts_implies_parser (p : Profile) (si : Option SInfo) (bytes : List Nat) (d : Decoded)
    (h : decodeFrame p si bytes = .ok d) :
    ∃ pr, parseFrame structLayout true si bytes = .ok pr ∧ pr.crc8ok = true ∧ pr.crc16ok = true
      ∧ pr.frame.hdr = d.hdr ∧ pr.used = d.used := by
  obtain ⟨pr, _, hp, h16, _, _, _, e1, e2⟩ := decodeFrame_iff_parse.mp h
  rw [structLayout_eq_decLayout]
  exact ⟨pr, hp, parseFrame_enforced hp, h16, e1.symm, e2.symm⟩

end Flac.C17
