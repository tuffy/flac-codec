/-
  Props/C20b.lean — C20, "arbitrary spacing accepted by the format": the classification of a cue sheet line (command, arguments, and
  through it everything the importer does with the line) does not depend on white space before or after the line.
-/
import FlacModel.Props.C20

namespace Flac.C20
open Flac

/-- `str::trim` ignores white space around its argument -/
theorem trimChars_spacing (ws1 ws2 line : List Char) (h1 : ws1.all isWs = true) (h2 : ws2.all isWs = true) :
    trimChars (ws1 ++ line ++ ws2) = trimChars line := by
  rw [List.all_eq_true] at h1 h2
  have e2 : ws2.dropWhile isWs = [] := by simpa using List.dropWhile_append_of_pos (l₂ := []) h2
  unfold trimChars
  rw [List.append_assoc, List.dropWhile_append_of_pos h1, List.dropWhile_append]
  split
  next h => rw [e2, List.isEmpty_iff.mp h]   -- a blank line
  next => rw [List.reverse_append, List.dropWhile_append_of_pos (by simpa using h2)]

/-- **A line means the same with any white space before and after it**: same command, same arguments, same token handed to the importer. -/
theorem classify_spacing (p : Profile) (cdda : Bool) (ws1 ws2 line : List Char) (h1 : ws1.all isWs = true) (h2 : ws2.all isWs = true) :
    classify p cdda (ws1 ++ line ++ ws2) = classify p cdda line := by
  unfold classify
  rw [trimChars_spacing ws1 ws2 line h1 h2]

/-- non-vacuity: tabs, blanks and an ideographic space around `FLAGS PRE` -/
example : (match classify .release true ['\t', ' ', ' ', 'F', 'L', 'A', 'G', 'S', ' ', 'P', 'R', 'E', ' ', '\u3000', '\t'] with
    | .flagsPre => true | _ => false) = true := by decide

end Flac.C20
