/-
  Props/C19b.lean — C19, the constant-block clause: for a block whose samples are all equal and non-zero (an all-zero channel takes the
  `all_0` shortcut), `encode_fixed_subframe` picks order 1 and its residuals are all zero — so the FIXED candidate is the one whose
  size `C19.constant_block_small` bounds independently of the block length.
-/
import FlacModel.Model.FixedPick
import FlacModel.Props.C19

namespace Flac.C19
open Flac Flac.Gen

theorem fixedDiff_self (v : Int) : encFixedDiff v v = some 0 := by
  simp [encFixedDiff, checkedSubS, fitsS]

theorem encDiff_const (v : Int) (n : Nat) : encDiff (List.replicate (n + 1) v) = some (List.replicate n 0) := by
  induction n with
  | zero => rfl
  | succ n ih =>
    rw [List.replicate_succ] at ih
    rw [List.replicate_succ, List.replicate_succ, encDiff, fixedDiff_self, ih]; rfl

theorem absSumTail_replicate (m k : Nat) (v : Int) : absSumTail m (List.replicate k v) = (k - (k - m)) * v.natAbs := by
  rw [absSumTail, List.length_replicate, List.drop_replicate, List.map_replicate, List.sum_replicate_nat]

theorem argminFirst_second (k0 : Nat) (rest : List Nat) (h0 : 0 < k0) : argminFirst (k0 :: 0 :: rest) = 1 := by
  have hnot : ((0 :: rest).all (k0 ≤ ·)) = false := by
    rw [List.all_cons, decide_eq_false (Nat.not_le_of_gt h0), Bool.false_and]
  have hz : argminFirst (0 :: rest) = 0 := by
    cases rest with
    | nil => rfl
    | cons a t => simp [argminFirst]
  simp only [argminFirst, hnot, Bool.false_eq_true, if_false, hz]

/-- the accumulation never keeps an empty difference signal -/
theorem fixedOrders_pos (k : Nat) (prev : List Int) : ∀ d ∈ fixedOrders k prev, 1 ≤ d.length := by
  fun_induction fixedOrders k prev with
  | case1 | case2 => nofun                                               -- no order left, or an empty signal
  | case3 _ _ _ hd => rw [hd]; nofun                                     -- the subtraction overflows
  | case4 _ _ _ d he hd => rw [hd]; dsimp only; rw [if_pos he]; nofun   -- the difference signal is empty
  | case5 _ _ _ d hne hd ih =>                                           -- `d` is kept and the accumulation goes on from it
    rw [hd]; dsimp only; rw [if_neg hne]
    intro d' h
    rcases List.mem_cons.mp h with rfl | h
    · cases d' with
      | nil => exact absurd rfl hne
      | cons _ _ => exact Nat.succ_le_succ (Nat.zero_le _)
    · exact ih d' h

/-- `min_fixed`, the length of the last candidate, is at least 1: no candidate is empty -/
theorem minFixed_pos (channel : List Int) (h : channel ≠ []) : 1 ≤ ((fixedCandidates channel).getLast?.getD []).length := by
  cases hl : (fixedCandidates channel).getLast? with
  | none => cases List.getLast?_eq_none_iff.mp hl
  | some x =>
    rcases List.mem_cons.mp (List.mem_of_getLast? hl) with rfl | hx
    · exact List.length_pos_iff.mpr h
    · exact fixedOrders_pos _ _ x hx

/-- **A constant non-zero block is written by `encode_fixed_subframe` as FIXED order 1 with all-zero residuals**, whatever its length (≥ 2). -/
theorem constant_block_fixed_zero (v : Int) (hv : v ≠ 0) (n : Nat) :
    fixedPick (List.replicate (n + 2) v) = (1, List.replicate (n + 1) 0) := by
  have hlast := minFixed_pos (List.replicate (n + 2) v) (List.ne_nil_of_length_pos (by rw [List.length_replicate]; omega))
  -- the candidates: the block itself, the zeros of order 1, and whatever follows
  have hc : fixedCandidates (List.replicate (n + 2) v)
      = List.replicate (n + 2) v :: List.replicate (n + 1) 0 :: fixedOrders 3 (List.replicate (n + 1) 0) := by
    have hd := encDiff_const v (n + 1)
    rw [List.replicate_succ] at hd
    rw [fixedCandidates, List.replicate_succ, fixedOrders, hd]; rfl
  unfold fixedPick
  dsimp only
  generalize ((fixedCandidates (List.replicate (n + 2) v)).getLast?.getD []).length = m at hlast
  -- their keys: positive for the block (the last `m ≥ 1` samples, each `v ≠ 0`), zero for the zeros
  have hpos : 0 < absSumTail m (List.replicate (n + 2) v) := by
    rw [absSumTail_replicate]; exact Nat.mul_pos (by omega) (Int.natAbs_pos.mpr hv)
  rw [hc, List.map_cons, List.map_cons, absSumTail_replicate m (n + 1) 0, Int.natAbs_zero, Nat.mul_zero, argminFirst_second _ _ hpos]
  rfl

/-- a constant block gets order 1 with zero residuals; a ramp does not (order 2) -/
example : fixedPick [5, 5, 5, 5, 5, 5] = (1, [0, 0, 0, 0, 0]) := by decide
example : fixedPick [1, 2, 3, 4, 5, 6] = (2, [0, 0, 0, 0]) := by decide

end Flac.C19
