/-
  Proofs/Codec.lean — the frame format is a bijection on well-formed frames.
  Every reader of Model/Frame.lean accepts exactly what the writer next to it writes for a well-formed value
  (`read b = .ok (x, rest) ↔ wf x ∧ b = write x ++ rest`; for the two big readers the halves are stated apart as
  `_write` and `_sound`), up to the whole frame: `parseFrame_serialize`, and through `decodeFrame_iff_parse` (the
  streaming decoder is the structural parser followed by sample expansion) `decodeFrame_serialize`.  The converse at
  frame level is `C17.parse_reserializes` (Props/C17b.lean).  The well-formedness predicates `partWf … FrameWf` are
  defined here, next to the readers whose acceptance they describe.
-/
import FlacModel.Proofs.FrameInv
import FlacModel.Proofs.CrcSelf
import FlacModel.Proofs.DecodeFacts
import FlacModel.Proofs.Layout

namespace Flac
open Flac.Gen

/-! How the proofs go, reader by reader, from the monadic forms of Proofs/Parser.lean: `simp only [bind_ok_iff, …]` turns the
left side into the list of what was read step by step; one direction then collects the facts, the other supplies the
values. -/

theorem readN_ok_iff {α : Type} {p : P α} {w : α → Bits} {q : α → Prop} (hp : ∀ {b x r}, p b = .ok (x, r) ↔ q x ∧ b = w x ++ r)
    {n : Nat} {b : Bits} {xs : List α} {r : Bits} :
    readN p n b = .ok (xs, r) ↔ (xs.length = n ∧ ∀ x ∈ xs, q x) ∧ b = xs.flatMap w ++ r := by
  induction n generalizing b xs r with
  | zero =>
    rw [readN_zero, pure_ok_iff, Prod.mk.injEq, List.length_eq_zero_iff]
    constructor
    · rintro ⟨rfl, rfl⟩; exact ⟨⟨rfl, nofun⟩, rfl⟩
    · rintro ⟨⟨rfl, _⟩, rfl⟩; exact ⟨rfl, rfl⟩
  | succ n ih =>
    rw [readN_succ]
    simp only [bind_ok_iff, pure_ok_iff, Prod.mk.injEq, hp, ih]
    constructor
    · rintro ⟨x, _, ⟨hx, rfl⟩, xs', _, ⟨⟨hl, hq⟩, rfl⟩, rfl, rfl⟩
      exact ⟨⟨by rw [List.length_cons, hl], List.forall_mem_cons.mpr ⟨hx, hq⟩⟩, by rw [List.flatMap_cons, List.append_assoc]⟩
    · rintro ⟨⟨hl, hq⟩, rfl⟩
      cases xs with
      | nil => cases hl
      | cons x xs =>
        obtain ⟨hx, hq⟩ := List.forall_mem_cons.mp hq
        exact ⟨x, _, ⟨hx, by rw [List.flatMap_cons, List.append_assoc]⟩, xs, _, ⟨⟨Nat.succ.inj hl, hq⟩, rfl⟩, rfl, rfl⟩

/-- the residuals a Rice code of the format can carry: the folded value fits 32 bits (the decoder accepts the most
    negative 32-bit value too; the RFC forbids it and the encoder never produces it) -/
def resOk (r : Int) : Prop := -2147483648 ≤ r ∧ r < 2147483648

/-- Rice fold/unfold for every residual a 32-bit folded value can carry, the most negative value included -/
theorem fold_unfold' (k : Nat) (r : Int) (h0 : -2147483648 ≤ r) (h1 : r < 2147483648) :
    unfoldRice k (foldRice r / 2 ^ k) (foldRice r % 2 ^ k) = r :=
  unfoldRice_foldRice k r (foldRice_lt r h0 h1)

/-- for `k > 32` the reader would accept a remainder field of `2 ^ 32` or more and truncate it, and the equivalence fails -/
theorem readRiceOne_ok_iff {k : Nat} (hk : k ≤ 32) {b : Bits} {r : Int} {rest : Bits} :
    readRiceOne k b = .ok (r, rest) ↔ resOk r ∧ b = writeRiceOne k r ++ rest := by
  have hp : 0 < 2 ^ k := Nat.pow_pos (by decide)
  rw [readRiceOne_eq]
  simp only [bind_ok_iff, ite_ok_iff, fail_ok_iff, and_false, false_or, pure_ok_iff, Prod.mk.injEq, readUnary1_ok_iff, readU_ok_iff,
    decRiceOverflow, decide_eq_true_eq, writeRiceOne, List.append_assoc]
  constructor
  · rintro ⟨msb, _, rfl, lsb, _, ⟨hl, rfl⟩, ho, rfl, rfl⟩
    obtain ⟨hf, hr⟩ := foldRice_unfoldRice k msb lsb (rice_limit 32 k msb lsb hk hl ho)
    rw [hf, Nat.add_comm, Nat.add_mul_div_right _ _ hp, Nat.div_eq_of_lt hl, Nat.add_mul_mod_self_right, Nat.mod_eq_of_lt hl,
      Nat.zero_add]
    exact ⟨hr, rfl⟩
  · rintro ⟨hr, rfl⟩
    have hlt := foldRice_lt r hr.1 hr.2
    exact ⟨_, _, rfl, _, _, ⟨Nat.mod_lt _ hp, rfl⟩, Nat.not_lt.mpr (Nat.div_le_div_right (by omega)),
      (unfoldRice_foldRice k r hlt).symm, rfl⟩

/-- a partition of `n` residuals is well-formed for a `pbits`-bit parameter field -/
def partWf (pbits n : Nat) : Partition → Prop
  | .rice k rs => k < 2 ^ pbits - 1 ∧ rs.length = n ∧ ∀ r ∈ rs, resOk r
  | .escaped w rs => 0 < w ∧ w < 32 ∧ rs.length = n ∧ ∀ r ∈ rs, fitsS w r = true
  | .zero m => m = n

theorem readPartition_ok_iff {pbits : Nat} (hp0 : 0 < pbits) (hp : pbits ≤ 5) {n : Nat} {b : Bits} {pt : Partition} {rest : Bits} :
    readPartition pbits n b = .ok (pt, rest) ↔ partWf pbits n pt ∧ b = writePartition pbits pt ++ rest := by
  have h2 : 2 ^ 1 ≤ 2 ^ pbits ∧ 2 ^ pbits ≤ 2 ^ 5 := ⟨Nat.pow_le_pow_right (by decide) hp0, Nat.pow_le_pow_right (by decide) hp⟩
  rw [readPartition_eq]
  simp only [bind_ok_iff, ite_ok_iff, pure_ok_iff, Prod.mk.injEq, readU_ok_iff, beq_iff_eq]
  constructor
  · rintro ⟨k, _, ⟨hk, rfl⟩, ⟨rfl, w, _, ⟨hw, rfl⟩, ⟨rfl, rfl, rfl⟩ | ⟨hw0, rs, _, h, rfl, rfl⟩⟩ | ⟨hk', rs, _, h, rfl, rfl⟩⟩
    · exact ⟨rfl, by simp only [writePartition, List.append_assoc]⟩
    · obtain ⟨⟨hl, hq⟩, rfl⟩ := (readN_ok_iff (readS_ok_iff (Nat.pos_of_ne_zero hw0))).mp h
      exact ⟨⟨Nat.pos_of_ne_zero hw0, hw, hl, hq⟩, by simp only [writePartition, List.append_assoc]⟩
    · obtain ⟨⟨hl, hq⟩, rfl⟩ := (readN_ok_iff (readRiceOne_ok_iff (by omega))).mp h
      exact ⟨⟨by omega, hl, hq⟩, by simp only [writePartition, List.append_assoc]⟩
  · rintro ⟨hw, rfl⟩
    cases pt with
    | rice k rs =>
      obtain ⟨hk, hl, hq⟩ := hw
      exact ⟨k, _, ⟨by omega, by simp only [writePartition, List.append_assoc]⟩, .inr ⟨by omega, rs, _,
        (readN_ok_iff (readRiceOne_ok_iff (by omega))).mpr ⟨⟨hl, hq⟩, rfl⟩, rfl, rfl⟩⟩
    | escaped w rs =>
      obtain ⟨h0, hw, hl, hq⟩ := hw
      exact ⟨_, _, ⟨by omega, by simp only [writePartition, List.append_assoc]⟩, .inl ⟨rfl, w, _, ⟨by omega, rfl⟩,
        .inr ⟨by omega, rs, _, (readN_ok_iff (readS_ok_iff h0)).mpr ⟨⟨hl, hq⟩, rfl⟩, rfl, rfl⟩⟩⟩
    | zero m =>
      cases hw
      exact ⟨_, _, ⟨by omega, by simp only [writePartition, List.append_assoc]⟩, .inl ⟨rfl, 0, _, ⟨by decide, rfl⟩, .inl ⟨rfl, rfl, rfl⟩⟩⟩

def partsWf (pbits : Nat) : List Nat → List Partition → Prop
  | [], [] => True
  | n :: ns, pt :: pts => partWf pbits n pt ∧ partsWf pbits ns pts
  | _, _ => False

theorem readPartitions_ok_iff {pbits : Nat} (hp0 : 0 < pbits) (hp : pbits ≤ 5) {ns : List Nat} {b : Bits} {pts : List Partition}
    {rest : Bits} :
    readPartitions pbits ns b = .ok (pts, rest) ↔ partsWf pbits ns pts ∧ b = pts.flatMap (writePartition pbits) ++ rest := by
  induction ns generalizing b pts rest with
  | nil =>
    rw [readPartitions_nil, pure_ok_iff, Prod.mk.injEq]
    constructor
    · rintro ⟨rfl, rfl⟩; exact ⟨trivial, rfl⟩
    · rintro ⟨hw, rfl⟩
      cases pts with
      | nil => exact ⟨rfl, rfl⟩
      | cons _ _ => exact hw.elim
  | cons n ns ih =>
    rw [readPartitions_cons]
    simp only [bind_ok_iff, pure_ok_iff, Prod.mk.injEq, readPartition_ok_iff hp0 hp, ih]
    constructor
    · rintro ⟨pt, _, ⟨h1, rfl⟩, ps, _, ⟨h2, rfl⟩, rfl, rfl⟩
      exact ⟨⟨h1, h2⟩, by rw [List.flatMap_cons, List.append_assoc]⟩
    · rintro ⟨hw, rfl⟩
      cases pts with
      | nil => exact hw.elim
      | cons pt pts => exact ⟨pt, _, ⟨hw.1, by rw [List.flatMap_cons, List.append_assoc]⟩, pts, _, ⟨hw.2, rfl⟩, rfl, rfl⟩

theorem partsWf_length {pbits : Nat} {ns : List Nat} {pts : List Partition} (h : partsWf pbits ns pts) :
    (pts.flatMap Partition.residuals).length = ns.sum := by
  induction ns generalizing pts with
  | nil => cases pts with
    | nil => rfl
    | cons _ _ => exact h.elim
  | cons n ns ih => cases pts with
    | nil => exact h.elim
    | cons pt pts =>
      have h1 : pt.residuals.length = n := by
        cases pt with
        | rice k rs => exact h.1.2.1
        | escaped w rs => exact h.1.2.2.1
        | zero m => simp only [Partition.residuals, List.length_replicate]; exact h.1
      simp only [List.flatMap_cons, List.length_append, List.sum_cons, h1, ih h.2]

/-- a residual block is well-formed for `bs` samples behind `order` warm-up samples under a layout rule -/
def resWf (layout : Layout) (bs order : Nat) (r : Residual) : Prop :=
  r.method < 2 ∧ r.order < 16 ∧ ∃ sizes, layout bs order r.order = .ok sizes ∧ partsWf (4 + r.method) sizes r.parts

theorem readResidual_ok_iff {layout : Layout} {bs order : Nat} {b : Bits} {res : Residual} {rest : Bits} :
    readResidual layout bs order b = .ok (res, rest) ↔ resWf layout bs order res ∧ b = writeResidual res ++ rest := by
  rw [readResidual_eq]
  simp only [bind_ok_iff, ite_ok_iff, fail_ok_iff, and_false, false_or, pure_ok_iff, liftRes_ok_iff, Prod.mk.injEq, readU_ok_iff]
  constructor
  · rintro ⟨m, _, ⟨_, rfl⟩, hm, po, _, ⟨hpo, rfl⟩, sizes, _, ⟨_, hl, rfl, rfl⟩, ps, _, hps, rfl, rfl⟩
    obtain ⟨hw, rfl⟩ := (readPartitions_ok_iff (by omega) (by omega)).mp hps
    exact ⟨⟨Nat.lt_of_not_le hm, hpo, sizes, hl, hw⟩, by simp only [writeResidual, List.append_assoc]⟩
  · rintro ⟨⟨hm, ho, sizes, hl, hps⟩, rfl⟩
    exact ⟨_, _, ⟨by omega, by simp only [writeResidual, List.append_assoc]⟩, by omega, _, _, ⟨ho, rfl⟩, _, _, ⟨sizes, hl, rfl, rfl⟩, _, _,
      (readPartitions_ok_iff (by omega) (by omega)).mpr ⟨hps, rfl⟩, rfl, rfl⟩

theorem readResidual_write (layout : Layout) (bs order : Nat) (r : Residual) (rest : Bits) (h : resWf layout bs order r) :
    readResidual layout bs order (writeResidual r ++ rest) = .ok (r, rest) := readResidual_ok_iff.mpr ⟨h, rfl⟩

/-! what well-formedness says of the block size when the layout rule does (Proofs/Layout.lean): the order fits (`LayoutFits`),
the residuals add up (`LayoutSums`) -/

theorem resWf_order {layout : Layout} (hl : LayoutFits layout) {bs o : Nat} {res : Residual} (h : resWf layout bs o res) : o ≤ bs := by
  obtain ⟨_, _, sizes, hs, _⟩ := h
  exact hl bs o res.order sizes hs

theorem resWf_length {layout : Layout} (hl : LayoutSums layout) {bs order : Nat} {res : Residual} (h : resWf layout bs order res) :
    res.residuals.length + order = bs := by
  obtain ⟨_, _, sizes, hs, hp⟩ := h
  rw [Residual.residuals, partsWf_length hp]
  exact hl bs order res.order sizes hs

/-- the subframe type codes the format defines -/
def tyOk (ty : Nat) : Prop := ty = 0 ∨ ty = 1 ∨ (8 ≤ ty ∧ ty ≤ 12) ∨ (32 ≤ ty ∧ ty ≤ 63)

theorem tyOk_iff (ty : Nat) : (ty == subTypeConstant || ty == subTypeVerbatim
    || (subTypeFixedLo ≤ ty && ty ≤ subTypeFixedHi) || (subTypeLpcLo ≤ ty && ty ≤ subTypeLpcHi)) = true ↔ tyOk ty := by
  -- the `decide`s first: once a constant is unfolded in the proposition its instance no longer matches
  simp only [Bool.or_eq_true, Bool.and_eq_true, beq_iff_eq, decide_eq_true_eq]
  simp only [subTypeConstant, subTypeVerbatim, subTypeFixedLo, subTypeFixedHi, subTypeLpcLo, subTypeLpcHi, tyOk, or_assoc]

theorem readSubHeader_ok_iff {b : Bits} {ty wasted : Nat} {r : Bits} :
    readSubHeader b = .ok ((ty, wasted), r) ↔ tyOk ty ∧ b = writeSubHeader ty wasted ++ r := by
  rw [readSubHeader_eq]
  simp only [bind_ok_iff, ite_ok_iff, fail_ok_iff, and_false, false_or, pure_ok_iff, Prod.mk.injEq, readBit_ok_iff, readU_ok_iff,
    readUnary1_ok_iff, Bool.not_eq_true', Bool.not_eq_true, Bool.not_eq_false, tyOk_iff, writeSubHeader, List.append_assoc, List.cons_append,
    List.nil_append]
  constructor
  · rintro ⟨_, _, rfl, rfl, _, _, ⟨_, rfl⟩, hty, _, _, rfl, ⟨rfl, ⟨rfl, rfl⟩, rfl⟩ | ⟨rfl, u, _, rfl, ⟨rfl, rfl⟩, rfl⟩⟩
    · exact ⟨hty, rfl⟩
    · exact ⟨hty, rfl⟩
  · rintro ⟨hty, rfl⟩
    refine ⟨_, _, rfl, rfl, _, _, ⟨by unfold tyOk at hty; omega, rfl⟩, hty, ?_⟩
    cases wasted with
    | zero => exact ⟨_, _, rfl, .inl ⟨rfl, ⟨rfl, rfl⟩, rfl⟩⟩
    | succ u => exact ⟨_, _, rfl, .inr ⟨rfl, u, _, rfl, ⟨rfl, rfl⟩, rfl⟩⟩

def allFit (n : Nat) (xs : List Int) : Prop := ∀ x ∈ xs, fitsS n x = true

/-- a subframe of `bs` samples at depth `bps` is well-formed.  The bounds are those of the fields: orders `≤ 4` and
    `1 … 32` from the type codes 8 … 12 and 32 … 63, `prec ≤ 15` because the precision code 15 is refused, `shift ≤ 15`
    because the shift is a 5-bit signed field that must not be negative. -/
def subWf (layout : Layout) (bs bps : Nat) (s : Subframe) : Prop :=
  s.wasted < bps ∧
  match s.body with
  | .constant v => fitsS (bps - s.wasted) v = true
  | .verbatim xs => xs.length = bs ∧ allFit (bps - s.wasted) xs
  | .fixed o warm res => o ≤ 4 ∧ o ≤ bs ∧ warm.length = o ∧ allFit (bps - s.wasted) warm ∧ resWf layout bs o res
  | .lpc o warm prec shift coefs res =>
      1 ≤ o ∧ o ≤ 32 ∧ o ≤ bs ∧ warm.length = o ∧ allFit (bps - s.wasted) warm ∧ 1 ≤ prec ∧ prec ≤ 15 ∧ shift ≤ 15
        ∧ coefs.length = o ∧ allFit prec coefs ∧ resWf layout bs o res

theorem readSubframe_sound {layout : Layout} (hl : LayoutFits layout) {cw : Bool} {bs bps : Nat} {b : Bits} {s : Subframe} {rest : Bits}
    (h : readSubframe layout cw bs bps b = .ok (s, rest)) :
    subWf layout bs bps s ∧ b = writeSubframe bps s ++ rest := by
  -- the steps a successful run went through; the `decide`s before the constants are unfolded (see `tyOk_iff`)
  rw [readSubframe_eq] at h
  simp only [bind_ok_iff, ite_ok_iff, fail_ok_iff, and_false, false_or, pure_ok_iff, Prod.mk.injEq, readU_ok_iff, readResidual_ok_iff,
    beq_iff_eq, Bool.and_eq_true, decide_eq_true_eq] at h
  simp only [subTypeConstant, subTypeVerbatim, subTypeFixedLo, subTypeFixedHi, subTypeFixedBase, subTypeLpcBase] at h
  obtain ⟨⟨ty, w⟩, b1, hh, hw, h⟩ := h
  dsimp only at hw h
  obtain ⟨hty, rfl⟩ := readSubHeader_ok_iff.mp hh
  have hwl : w < bps := Nat.lt_of_not_le hw
  have rdS := @readS_ok_iff _ (Nat.sub_pos_of_lt hwl)
  rcases h with ⟨rfl, v, _, hv, rfl, rfl⟩ | ⟨_, ⟨rfl, xs, _, hx, rfl, rfl⟩ | ⟨_, ⟨⟨c1, c2⟩, _, warm, _, hwarm, res, _, ⟨hres, rfl⟩, rfl, rfl⟩ |
    ⟨c3, _, warm, _, hwarm, pm1, _, ⟨hpm, rfl⟩, c5, shift, _, hsh, c6, coefs, _, hco, res, _, ⟨hres, rfl⟩, rfl, rfl⟩⟩⟩
  · obtain ⟨f, rfl⟩ := rdS.mp hv
    exact ⟨⟨hwl, f⟩, by simp only [writeSubframe, subTypeConstant, List.append_assoc]⟩
  · obtain ⟨⟨l, q⟩, rfl⟩ := (readN_ok_iff rdS).mp hx
    exact ⟨⟨hwl, l, q⟩, by simp only [writeSubframe, subTypeVerbatim, List.append_assoc]⟩
  · obtain ⟨⟨l, q⟩, rfl⟩ := (readN_ok_iff rdS).mp hwarm
    refine ⟨⟨hwl, by omega, resWf_order hl hres, l, q, hres⟩, ?_⟩
    simp only [writeSubframe, subTypeFixedBase, List.append_assoc, Nat.add_sub_cancel' c1]
  · have c : 32 ≤ ty ∧ ty ≤ 63 := by unfold tyOk at hty; omega
    obtain ⟨⟨l, q⟩, rfl⟩ := (readN_ok_iff rdS).mp hwarm
    obtain ⟨fs, rfl⟩ := (readS_ok_iff (by decide)).mp hsh
    obtain ⟨⟨lc, qc⟩, rfl⟩ := (readN_ok_iff (readS_ok_iff (Nat.succ_pos pm1))).mp hco
    have fs' := (fitsS_succ_iff 4 shift).mp fs
    refine ⟨⟨hwl, by omega, by omega, resWf_order hl hres, l, q, by omega, by omega, by omega, lc, qc, hres⟩, ?_⟩
    simp only [writeSubframe, subTypeLpcBase, List.append_assoc, Nat.add_sub_cancel, Nat.add_sub_cancel' (show 31 ≤ ty by omega),
      Int.toNat_of_nonneg (Int.not_lt.mp c6)]

/-- in the direction from the writer the layout rule need not fit: `subWf` itself says `o ≤ bs` -/
theorem readSubframe_write (layout : Layout) (cw : Bool) (bs bps : Nat) (s : Subframe) (rest : Bits)
    (h : subWf layout bs bps s) :
    readSubframe layout cw bs bps (writeSubframe bps s ++ rest) = .ok (s, rest) := by
  rw [readSubframe_eq]
  simp only [bind_ok_iff, ite_ok_iff, fail_ok_iff, and_false, false_or, pure_ok_iff, Prod.mk.injEq, readU_ok_iff, readResidual_ok_iff,
    beq_iff_eq, Bool.and_eq_true, decide_eq_true_eq]
  simp only [subTypeConstant, subTypeVerbatim, subTypeFixedLo, subTypeFixedHi, subTypeFixedBase, subTypeLpcBase]
  obtain ⟨w, body⟩ := s
  obtain ⟨hw, hb⟩ := h
  dsimp only at hw hb
  have rdS := @readS_ok_iff _ (Nat.sub_pos_of_lt hw)
  cases body with
  | constant v =>
    exact ⟨(0, w), _, readSubHeader_ok_iff.mpr ⟨.inl rfl, by simp only [writeSubframe, subTypeConstant, List.append_assoc]⟩,
      Nat.not_le.mpr hw, .inl ⟨rfl, v, _, rdS.mpr ⟨hb, rfl⟩, rfl, rfl⟩⟩
  | verbatim xs =>
    exact ⟨(1, w), _, readSubHeader_ok_iff.mpr ⟨.inr (.inl rfl), by simp only [writeSubframe, subTypeVerbatim, List.append_assoc]⟩,
      Nat.not_le.mpr hw, .inr ⟨nofun, .inl ⟨rfl, xs, _, (readN_ok_iff rdS).mpr ⟨hb, rfl⟩, rfl, rfl⟩⟩⟩
  | fixed o warm res =>
    obtain ⟨ho, hob, l, q, hr⟩ := hb
    have e : 8 + o - 8 = o := Nat.add_sub_cancel_left ..
    -- the header with type `8 + o`, and the wasted-bits guard
    refine ⟨(8 + o, w), warm.flatMap (intToBits (bps - w)) ++ (writeResidual res ++ rest), readSubHeader_ok_iff.mpr ⟨by unfold tyOk; omega,
      by simp only [writeSubframe, subTypeFixedBase, List.append_assoc]⟩, Nat.not_le.mpr hw, ?_⟩
    -- dispatch: not CONSTANT, not VERBATIM, in the FIXED range; the warm-up guard passes since `o ≤ bs`
    refine .inr ⟨by omega, .inr ⟨by omega, .inl ⟨⟨by omega, by omega⟩, fun h => (by omega), ?_⟩⟩⟩
    -- `o` warm-up samples, the residual
    exact ⟨warm, _, (readN_ok_iff rdS).mpr ⟨⟨by omega, q⟩, rfl⟩, res, _, ⟨e.symm ▸ hr, rfl⟩, by rw [e], rfl⟩
  | lpc o warm prec shift coefs res =>
    obtain ⟨ho1, ho, hob, l, q, hp1, hp, hs, lc, qc, hr⟩ := hb
    have e : 31 + o - 31 = o := Nat.add_sub_cancel_left ..
    have ep : prec - 1 + 1 = prec := Nat.sub_add_cancel hp1
    -- the header with type `31 + o`, and the wasted-bits guard
    refine ⟨(31 + o, w), warm.flatMap (intToBits (bps - w)) ++ (natToBits 4 (prec - 1) ++ (intToBits 5 shift ++
      (coefs.flatMap (intToBits prec) ++ (writeResidual res ++ rest)))), readSubHeader_ok_iff.mpr ⟨by unfold tyOk; omega,
      by simp only [writeSubframe, subTypeLpcBase, List.append_assoc]⟩, Nat.not_le.mpr hw, ?_⟩
    -- dispatch: not CONSTANT, not VERBATIM, not in the FIXED range; the warm-up guard passes since `o ≤ bs`
    refine .inr ⟨by omega, .inr ⟨by omega, .inr ⟨by omega, fun h => (by omega), ?_⟩⟩⟩
    -- `o` warm-up samples; the precision code `prec - 1`, which is not 15; the shift, a non-negative 5-bit signed field
    refine ⟨warm, _, (readN_ok_iff rdS).mpr ⟨⟨by omega, q⟩, rfl⟩, prec - 1, _, ⟨by omega, rfl⟩, by omega,
      (shift : Int), coefs.flatMap (intToBits prec) ++ (writeResidual res ++ rest),
      (readS_ok_iff (by decide)).mpr ⟨(fitsS_succ_iff 4 _).mpr (by omega), rfl⟩, by omega, ?_⟩
    -- `o` coefficients of `prec` bits, the residual
    exact ⟨coefs, _, (readN_ok_iff (readS_ok_iff (show 0 < prec - 1 + 1 by omega))).mpr ⟨⟨by omega, ep.symm ▸ qc⟩, by rw [ep]⟩,
      res, _, ⟨e.symm ▸ hr, rfl⟩, by rw [e, ep, Int.toNat_natCast], rfl⟩

/-- every subframe of the list is well-formed at the depth its position gives it -/
def subsWf (layout : Layout) (a : Assign) (bs bps : Nat) : List Subframe → Nat → Prop
  | [], _ => True
  | s :: ss, i => subWf layout bs (subBps a bps i) s ∧ subsWf layout a bs bps ss (i + 1)

theorem readSubframes_write (layout : Layout) (cw : Bool) (a : Assign) (bs bps : Nat) (ss : List Subframe) (i : Nat) (rest : Bits)
    (h : subsWf layout a bs bps ss i) :
    readSubframes layout cw a bs bps ss.length i (writeSubframes a bps ss i ++ rest) = .ok (ss, rest) := by
  induction ss generalizing i with
  | nil => simp [readSubframes, writeSubframes]
  | cons s ss ih =>
    simp only [List.length_cons, readSubframes, writeSubframes, List.append_assoc]
    rw [readSubframe_write layout cw bs _ s _ h.1]; dsimp only
    rw [ih (i + 1) h.2]

theorem readSubframes_sound {layout : Layout} (hl : LayoutFits layout) {cw : Bool} {a : Assign} {bs bps n i : Nat} {b : Bits}
    {ss : List Subframe} {rest : Bits} (h : readSubframes layout cw a bs bps n i b = .ok (ss, rest)) :
    (ss.length = n ∧ subsWf layout a bs bps ss i) ∧ b = writeSubframes a bps ss i ++ rest := by
  induction n generalizing i b ss with
  | zero => cases h; exact ⟨⟨rfl, trivial⟩, rfl⟩
  | succ n ih =>
    rw [readSubframes_succ] at h
    simp only [bind_ok_iff, pure_ok_iff, Prod.mk.injEq] at h
    obtain ⟨s, b1, h1, ss', _, h2, rfl, rfl⟩ := h
    obtain ⟨w1, rfl⟩ := readSubframe_sound hl h1
    obtain ⟨⟨l2, w2⟩, rfl⟩ := ih h2
    exact ⟨⟨by rw [List.length_cons, l2], w1, w2⟩, by simp only [writeSubframes, List.append_assoc]⟩

/-- the continuation bytes of a coded number, `acc` being what the bytes before them have contributed -/
theorem readNumberTail_ok_iff {m acc : Nat} {b : Bits} {x : Nat} {r : Bits} :
    readNumberTail m acc b = .ok (x, r) ↔ x / 64 ^ m = acc ∧ b = numberTail m x ++ r := by
  induction m generalizing acc b with
  | zero =>
    rw [readNumberTail_zero, pure_ok_iff, Prod.mk.injEq, Nat.pow_zero, Nat.div_one]
    exact ⟨fun ⟨h1, h2⟩ => ⟨h1, h2 ▸ rfl⟩, fun ⟨h1, h2⟩ => ⟨h1, h2 ▸ rfl⟩⟩
  | succ m ih =>
    have hp : 0 < 64 ^ m := Nat.pow_pos (by decide)
    rw [readNumberTail_succ]
    simp only [bind_ok_iff, ite_ok_iff, fail_ok_iff, and_false, false_or, readU_ok_iff, ih, bne_iff_ne, ne_eq, Decidable.not_not,
      numberTail, List.append_assoc, Nat.pow_succ, ← Nat.div_div_eq_div_mul]
    constructor
    · rintro ⟨_, _, ⟨_, rfl⟩, rfl, d, _, ⟨hd, rfl⟩, q, rfl⟩
      rw [q]
      exact ⟨by omega, by rw [show (acc * 64 + d) % 64 = d by omega]; rfl⟩
    · rintro ⟨q, rfl⟩
      exact ⟨2, _, ⟨by decide, rfl⟩, rfl, _, _, ⟨Nat.mod_lt _ (by decide), rfl⟩, by omega, rfl⟩

/-- the coded number `v` fits the `n`-byte form -/
def numWf (v n : Nat) : Prop := (n = 1 ∧ v < 128) ∨ (2 ≤ n ∧ n ≤ 7 ∧ v / 64 ^ (n - 1) < 2 ^ (7 - n))

theorem readNumber_ok_iff {b : Bits} {v n : Nat} {r : Bits} :
    readNumber b = .ok ((v, n), r) ↔ numWf v n ∧ b = writeNumber v n ++ r := by
  rw [readNumber_eq]
  simp only [bind_ok_iff, ite_ok_iff, fail_ok_iff, and_false, false_or, pure_ok_iff, Prod.mk.injEq, readUnary0_ok_iff, readU_ok_iff,
    readNumberTail_ok_iff, beq_iff_eq, Bool.or_eq_true, decide_eq_true_eq, not_or, numWf]
  constructor
  · rintro ⟨k, _, rfl, ⟨rfl, x, _, ⟨hx, rfl⟩, ⟨rfl, rfl⟩, rfl⟩ | ⟨k0, ⟨k1, k7⟩, v0, _, ⟨hv0, rfl⟩, _, _, ⟨q, rfl⟩, ⟨rfl, rfl⟩, rfl⟩⟩
    · exact ⟨.inl ⟨rfl, hx⟩, rfl⟩
    · exact ⟨.inr ⟨by omega, by omega, q ▸ hv0⟩, by rw [writeNumber, if_neg (show ¬ n ≤ 1 by omega), q, List.append_assoc, List.append_assoc]⟩
  · rintro ⟨⟨rfl, h⟩ | ⟨h1, h2, h3⟩, rfl⟩
    · exact ⟨0, _, rfl, .inl ⟨rfl, v, _, ⟨h, rfl⟩, ⟨rfl, rfl⟩, rfl⟩⟩
    · exact ⟨n, _, by rw [writeNumber, if_neg (show ¬ n ≤ 1 by omega), List.append_assoc, List.append_assoc], .inr ⟨by omega, ⟨by omega, by omega⟩,
        _, _, ⟨h3, rfl⟩, v, _, ⟨rfl, rfl⟩, ⟨rfl, rfl⟩, rfl⟩⟩

theorem lookup_mem {t : List (Nat × Nat)} {k v : Nat} (h : lookup t k = some v) : (k, v) ∈ t := by
  obtain ⟨⟨a, b⟩, hf, rfl⟩ := Option.map_eq_some_iff.mp h
  have hk := List.find?_some hf
  obtain rfl : a = k := beq_iff_eq.mp hk
  exact List.mem_of_find?_eq_some hf

def assignOfCode (c : Nat) : Assign :=
  if chanCodeLeftSide.contains c then .leftSide
  else if chanCodeSideRight.contains c then .sideRight
  else if chanCodeMidSide.contains c then .midSide
  else .indep ((lookup chanCodeIndependent c).getD 0)

def assignOk : Assign → Prop
  | .indep n => 1 ≤ n ∧ n ≤ 8
  | _ => True

theorem assignOfCode_chanCode (a : Assign) (h : assignOk a) :
    chanCode a < 2 ^ 4 ∧ chanCodeInvalid.contains (chanCode a) = false ∧ assignOfCode (chanCode a) = a := by
  cases a with
  | indep n =>
    obtain ⟨h1, h2⟩ := h
    have : n = 1 ∨ n = 2 ∨ n = 3 ∨ n = 4 ∨ n = 5 ∨ n = 6 ∨ n = 7 ∨ n = 8 := by omega
    rcases this with h | h | h | h | h | h | h | h <;> subst h <;> decide
  | leftSide => decide
  | sideRight => decide
  | midSide => decide

instance (a : Assign) : Decidable (assignOk a) := by cases a <;> unfold assignOk <;> infer_instance

/-- every channel code the reader accepts denotes an assignment that writes that code -/
theorem chanCode_assignOfCode : ∀ c : Fin 16, chanCodeInvalid.contains c.val = false →
    assignOk (assignOfCode c.val) ∧ chanCode (assignOfCode c.val) = c.val := by decide

/-- a frame header is well-formed: its codes are legal and its decoded fields are the ones the codes denote -/
structure HeaderWf (si : Option SInfo) (h : Header) : Prop where
  bsCode : h.bsCode < 2 ^ 4
  bsValid : blockSizeCodeInvalid.contains h.bsCode = false
  rateCode : h.rateCode < 2 ^ 4
  rateValid : sampleRateCodeInvalid.contains h.rateCode = false
  rateSubset : (sampleRateCodeStreaminfo.contains h.rateCode && si.isNone) = false
  assign : assignOk h.assign
  bpsCode : h.bpsCode < 2 ^ 3
  bpsValid : bpsCodeInvalid.contains h.bpsCode = false
  bpsSubset : (bpsCodeStreaminfo.contains h.bpsCode && si.isNone) = false
  bps : h.bps = if bpsCodeStreaminfo.contains h.bpsCode then (si.map (·.bps)).getD 0 else (lookup bpsCodeFixed h.bpsCode).getD 0
  number : numWf h.number h.numberBytes
  blockSize :
    if blockSizeCodeU8.contains h.bsCode then 1 ≤ h.blockSize ∧ h.blockSize ≤ 256
    else if blockSizeCodeU16.contains h.bsCode then 1 ≤ h.blockSize ∧ h.blockSize ≤ 65535
    else h.blockSize = (lookup blockSizeCodeFixed h.bsCode).getD 0
  rate :
    if sampleRateCodeStreaminfo.contains h.rateCode then h.rate = (si.map (·.rate)).getD 0
    else if sampleRateCodeKHz.contains h.rateCode then h.rate % sampleRateKHzMul = 0 ∧ h.rate / sampleRateKHzMul < 2 ^ sampleRateKHzBits
    else if sampleRateCodeHz.contains h.rateCode then h.rate % sampleRateHzMul = 0 ∧ h.rate / sampleRateHzMul < 2 ^ sampleRateHzBits
    else if sampleRateCodeDHz.contains h.rateCode then h.rate % sampleRateDHzMul = 0 ∧ h.rate / sampleRateDHzMul < 2 ^ sampleRateDHzBits
    else h.rate = (lookup sampleRateCodeFixed h.rateCode).getD 0
  hcrc : h.hcrc < 2 ^ 8

/-- the block-size field behind the coded number: one or two more bytes for the codes that say so.
    The left side of this lemma and of `rate_field_ok_iff` is the fragment of `readHeaderFields` as `unfold` prints it
    (hence `= true` and `Option.map (fun x => x.rate) si`): `readHeaderFields_sound` rewrites with them syntactically. -/
theorem blockSize_field_ok_iff {c : Nat} {b : Bits} {bs : Nat} {r : Bits} :
    (if blockSizeCodeU8.contains c = true then readU 8 >>= fun v => pure (v + 1)
     else if blockSizeCodeU16.contains c = true then
       readU 16 >>= fun v => if v + 1 > 65535 then P.fail (Fail.err "InvalidBlockSize") else pure (v + 1)
     else (pure ((lookup blockSizeCodeFixed c).getD 0) : P Nat)) b = .ok (bs, r) ↔
      (if blockSizeCodeU8.contains c then 1 ≤ bs ∧ bs ≤ 256
       else if blockSizeCodeU16.contains c then 1 ≤ bs ∧ bs ≤ 65535
       else bs = (lookup blockSizeCodeFixed c).getD 0) ∧
      b = (if blockSizeCodeU8.contains c = true then natToBits 8 (bs - 1)
           else if blockSizeCodeU16.contains c = true then natToBits 16 (bs - 1) else []) ++ r := by
  cases blockSizeCodeU8.contains c <;> cases blockSizeCodeU16.contains c <;>
    simp only [Bool.false_eq_true, if_false, if_true, bind_ok_iff, ite_ok_iff, fail_ok_iff, and_false, false_or, pure_ok_iff,
      Prod.mk.injEq, readU_ok_iff, List.nil_append]
  · exact ⟨fun ⟨h, h'⟩ => ⟨h, h'.symm⟩, fun ⟨h, h'⟩ => ⟨h, h'.symm⟩⟩
  · constructor
    · rintro ⟨v, _, ⟨hv, rfl⟩, hle, rfl, rfl⟩
      exact ⟨by omega, rfl⟩
    · rintro ⟨⟨h1, h2⟩, rfl⟩
      exact ⟨bs - 1, _, ⟨by omega, rfl⟩, by omega, by omega, rfl⟩
  all_goals
    constructor
    · rintro ⟨v, _, ⟨hv, rfl⟩, rfl, rfl⟩
      exact ⟨by omega, rfl⟩
    · rintro ⟨⟨h1, h2⟩, rfl⟩
      exact ⟨bs - 1, _, ⟨by omega, rfl⟩, by omega, rfl⟩

/-- a number stored divided by `m` in `n` bits: the three coded forms of the sample rate -/
theorem scaled_ok_iff {n m : Nat} (hm : 0 < m) {b : Bits} {x : Nat} {r : Bits} :
    (readU n >>= fun v => pure (v * m)) b = .ok (x, r) ↔ (x % m = 0 ∧ x / m < 2 ^ n) ∧ b = natToBits n (x / m) ++ r := by
  simp only [bind_ok_iff, pure_ok_iff, Prod.mk.injEq, readU_ok_iff]
  constructor
  · rintro ⟨v, _, ⟨hv, rfl⟩, rfl, rfl⟩
    rw [Nat.mul_div_cancel _ hm]
    exact ⟨⟨Nat.mul_mod_left .., hv⟩, rfl⟩
  · rintro ⟨⟨h0, hv⟩, rfl⟩
    exact ⟨_, _, ⟨hv, rfl⟩, (Nat.div_mul_cancel (Nat.dvd_of_mod_eq_zero h0)).symm, rfl⟩

theorem rate_field_ok_iff {si : Option SInfo} {c : Nat} {b : Bits} {rate : Nat} {r : Bits} :
    (if sampleRateCodeStreaminfo.contains c = true then (pure ((Option.map (fun x => x.rate) si).getD 0) : P Nat)
     else if sampleRateCodeKHz.contains c = true then readU sampleRateKHzBits >>= fun v => pure (v * sampleRateKHzMul)
     else if sampleRateCodeHz.contains c = true then readU sampleRateHzBits >>= fun v => pure (v * sampleRateHzMul)
     else if sampleRateCodeDHz.contains c = true then readU sampleRateDHzBits >>= fun v => pure (v * sampleRateDHzMul)
     else pure ((lookup sampleRateCodeFixed c).getD 0)) b = .ok (rate, r) ↔
      (if sampleRateCodeStreaminfo.contains c then rate = (si.map (·.rate)).getD 0
       else if sampleRateCodeKHz.contains c then rate % sampleRateKHzMul = 0 ∧ rate / sampleRateKHzMul < 2 ^ sampleRateKHzBits
       else if sampleRateCodeHz.contains c then rate % sampleRateHzMul = 0 ∧ rate / sampleRateHzMul < 2 ^ sampleRateHzBits
       else if sampleRateCodeDHz.contains c then rate % sampleRateDHzMul = 0 ∧ rate / sampleRateDHzMul < 2 ^ sampleRateDHzBits
       else rate = (lookup sampleRateCodeFixed c).getD 0) ∧
      b = (if sampleRateCodeKHz.contains c = true then natToBits sampleRateKHzBits (rate / sampleRateKHzMul)
           else if sampleRateCodeHz.contains c = true then natToBits sampleRateHzBits (rate / sampleRateHzMul)
           else if sampleRateCodeDHz.contains c = true then natToBits sampleRateDHzBits (rate / sampleRateDHzMul)
           else []) ++ r := by
  have plain (v : Nat) : (pure v : P Nat) b = .ok (rate, r) ↔ rate = v ∧ b = [] ++ r := by
    rw [pure_ok_iff, Prod.mk.injEq]; exact ⟨fun ⟨h, h'⟩ => ⟨h, h'.symm⟩, fun ⟨h, h'⟩ => ⟨h, h'.symm⟩⟩
  cases hs : sampleRateCodeStreaminfo.contains c
  · -- a coded form or a fixed rate
    cases sampleRateCodeKHz.contains c <;> cases sampleRateCodeHz.contains c <;> cases sampleRateCodeDHz.contains c <;>
      simp only [Bool.false_eq_true, if_false, if_true]
    · exact plain _
    all_goals exact scaled_ok_iff (by decide)
  · -- the rate of STREAMINFO.  The writer does not test for this code, the reader tests it first: the two agree because
    -- the code (0, by evaluation of the regenerated tables) is none of the three coded forms
    have hc : c = 0 := by simpa [sampleRateCodeStreaminfo] using hs
    subst hc
    simp only [if_true, show sampleRateCodeKHz.contains 0 = false from rfl, show sampleRateCodeHz.contains 0 = false from rfl,
      show sampleRateCodeDHz.contains 0 = false from rfl, Bool.false_eq_true, if_false]
    exact plain _

theorem readHeaderFields_write (si : Option SInfo) (h : Header) (rest : Bits) (w : HeaderWf si h) :
    readHeaderFields si (writeHeaderFields h ++ natToBits 8 h.hcrc ++ rest) = .ok (h, rest) := by
  obtain ⟨a1, a2, a3⟩ := assignOfCode_chanCode h.assign w.assign
  unfold readHeaderFields writeHeaderFields
  simp only [List.append_assoc]
  rw [bind_ok (readU_natToBits_lt 15 (by decide))]
  simp only [bne_self_eq_false, Bool.false_eq_true, if_false, List.cons_append, List.nil_append]
  rw [bind_ok (readBit_cons _ _), bind_ok (readU_natToBits_lt 4 w.bsCode)]
  simp only [w.bsValid, Bool.false_eq_true, if_false]
  rw [bind_ok (readU_natToBits_lt 4 w.rateCode)]
  simp only [w.rateValid, w.rateSubset, Bool.false_eq_true, if_false]
  rw [bind_ok (readU_natToBits_lt 4 a1)]
  simp only [a2, Bool.false_eq_true, if_false]
  rw [bind_ok (readU_natToBits_lt 3 w.bpsCode)]
  simp only [w.bpsValid, w.bpsSubset, Bool.false_eq_true, if_false]
  rw [bind_ok (readBit_cons _ _), bind_ok (readNumber_ok_iff.mpr ⟨w.number, rfl⟩)]
  rw [bind_ok (blockSize_field_ok_iff.mpr ⟨w.blockSize, rfl⟩), bind_ok (rate_field_ok_iff.mpr ⟨w.rate, rfl⟩),
    bind_ok (readU_natToBits_lt 8 w.hcrc), pure_apply]
  unfold assignOfCode at a3
  rw [a3, ← w.bps]

theorem readHeaderFields_sound {si : Option SInfo} {b : Bits} {h : Header} {r : Bits}
    (hr : readHeaderFields si b = .ok (h, r)) :
    HeaderWf si h ∧ b = writeHeaderFields h ++ natToBits 8 h.hcrc ++ r := by
  unfold readHeaderFields at hr
  simp only [bind_ok_iff, ite_fail_ok_iff, pure_ok_iff, Prod.mk.injEq, readU_ok_iff, readBit_ok_iff, blockSize_field_ok_iff,
    rate_field_ok_iff] at hr
  obtain ⟨sync, _, ⟨_, rfl⟩, hsync, blocking, _, rfl, bsCode, _, ⟨q3, rfl⟩, hbsv, rateCode, _, ⟨q4, rfl⟩, hrv, hrs, cc, _, ⟨q5, rfl⟩, hcv,
    bpsCode, _, ⟨q6, rfl⟩, hbv, hbs, reserved2, _, rfl, ⟨number, numberBytes⟩, _, g8, hr⟩ := hr
  obtain ⟨q8, rfl⟩ := readNumber_ok_iff.mp g8
  obtain ⟨blockSize, _, ⟨q9, rfl⟩, rate, _, ⟨q10, rfl⟩, c8, _, ⟨q11, rfl⟩, rfl, rfl⟩ := hr
  have hs : sync = syncCode15 := by simpa using hsync
  obtain ⟨a1, a2⟩ := chanCode_assignOfCode ⟨cc, q5⟩ (by simpa using hcv)
  simp only [assignOfCode] at a1 a2
  refine ⟨?_, ?_⟩
  · exact {
      bsCode := q3, bsValid := by simpa using hbsv, rateCode := q4, rateValid := by simpa using hrv,
      rateSubset := Bool.eq_false_iff.mpr hrs, assign := a1, bpsCode := q6, bpsValid := by simpa using hbv,
      bpsSubset := Bool.eq_false_iff.mpr hbs, bps := rfl, number := q8, blockSize := q9, rate := q10, hcrc := q11 }
  · rw [hs]
    simp only [writeHeaderFields, a2, List.append_assoc, List.cons_append, List.nil_append]

theorem writeNumber_length (v n : Nat) (h : numWf v n) : (writeNumber v n).length = 8 * n := by
  rcases h with ⟨h1, _⟩ | ⟨h1, h2, _⟩
  · subst h1; simp [writeNumber]
  · have : ¬ n ≤ 1 := by omega
    simp only [writeNumber, this, if_false, List.length_append, writeUnary0, List.length_replicate, List.length_cons,
      List.length_nil, natToBits_length, numberTail_length]
    omega

theorem writeHeaderFields_len8 (si : Option SInfo) (h : Header) (w : HeaderWf si h) : (writeHeaderFields h).length % 8 = 0 := by
  obtain ⟨a, b, ha, hb, e⟩ := writeHeaderFields_length h
  rw [e, writeNumber_length _ _ w.number]; omega

/-- a frame is well-formed against the STREAMINFO context `si` -/
structure FrameWf (si : Option SInfo) (f : Frame) : Prop where
  hdr : HeaderWf si f.hdr
  hcrc : f.hdr.hcrc = crc8 (bitsToBytes (writeHeaderFields f.hdr))
  check : checkStreaminfo si f.hdr = .ok ()
  bps : f.hdr.bps ≤ 32
  count : f.subs.length = f.hdr.assign.count
  subs : subsWf decLayout f.hdr.assign f.hdr.blockSize f.hdr.bps f.subs 0
  padLt : f.padding.length < 8
  aligned : ((writeSubframes f.hdr.assign f.hdr.bps f.subs 0).length + f.padding.length) % 8 = 0

theorem serialize_length_pos (f : Frame) : 1 ≤ f.serialize.length := by
  simp only [Frame.serialize, Frame.serializeWith, List.length_append, List.length_cons, List.length_nil]
  omega

theorem serialize_bytes_lt (f : Frame) : ∀ x ∈ f.serialize, x < 256 := by
  intro x hx
  simp only [Frame.serialize, Frame.serializeWith, List.mem_append, List.mem_cons, List.not_mem_nil, or_false] at hx
  -- `rw`, not `subst`: `subst` reduces both sides of `x = crc8 (..)` first and so runs the serializer
  rcases hx with ((hx | hx) | hx) | hx | hx
  · exact bitsToBytes_lt _ x hx
  · rw [hx]; exact crc8_lt _
  · exact bitsToBytes_lt _ x hx
  · rw [hx]; exact Nat.div_lt_of_lt_mul (crc16_lt _)
  · rw [hx]; exact Nat.mod_lt _ (by decide)

/-! ### the byte layout of a frame

A frame over bits is `H ++ c8 ++ (SP ++ c16)`: header bits (whole bytes), its CRC-8, the subframes with their padding (whole
bytes), the CRC-16.  Over bytes it is `bitsToBytes H ++ [c8] ++ bitsToBytes SP ++ [c16 / 256, c16 % 256]`, which is what
`Frame.serializeWith` builds.  Both directions of the frame codec (here and in Props/C17b.lean) go between the two views by
`bitsToBytes_frame`, and find the bytes a parser has consumed so far by `take_consumed`. -/

theorem hdr_aligned (H : Bits) (c8 : Nat) (hH : H.length % 8 = 0) : (H ++ natToBits 8 c8).length % 8 = 0 := by
  rw [List.length_append, natToBits_length]; omega

theorem bitsToBytes_hdr (H : Bits) (c8 : Nat) (hH : H.length % 8 = 0) (h8 : c8 < 256) :
    bitsToBytes (H ++ natToBits 8 c8) = bitsToBytes H ++ [c8] := by
  rw [bitsToBytes_append _ _ hH, bitsToBytes_u8 c8 h8]

theorem bitsToBytes_frame (H SP : Bits) (c8 c16 : Nat) (hH : H.length % 8 = 0) (hS : SP.length % 8 = 0) (h8 : c8 < 256)
    (h16 : c16 < 65536) :
    bitsToBytes (H ++ natToBits 8 c8 ++ (SP ++ natToBits 16 c16)) =
      bitsToBytes H ++ [c8] ++ bitsToBytes SP ++ [c16 / 256, c16 % 256] := by
  rw [bitsToBytes_append _ _ (hdr_aligned H c8 hH), bitsToBytes_hdr H c8 hH h8, bitsToBytes_append _ _ hS, bitsToBytes_u16 c16 h16,
    List.append_assoc (bitsToBytes H ++ [c8])]

theorem frame_aligned (H SP : Bits) (c8 c16 : Nat) (hH : H.length % 8 = 0) (hS : SP.length % 8 = 0) :
    (H ++ natToBits 8 c8 ++ (SP ++ natToBits 16 c16)).length % 8 = 0 := by
  simp only [List.length_append, natToBits_length]; omega

theorem bytes_lt_take (bytes : List Nat) (hb : ∀ x ∈ bytes, x < 256) (k : Nat) : ∀ x ∈ bytes.take k, x < 256 :=
  fun x hx => hb x (List.mem_of_mem_take hx)

/-- the bytes consumed when `r` is what is left of the bits and what was read is whole bytes -/
theorem take_consumed (bytes : List Nat) (hb : ∀ x ∈ bytes, x < 256) (x r : Bits) (h : bytesToBits bytes = x ++ r)
    (hx : x.length % 8 = 0) : bytes.take (bytes.length - r.length / 8) = bitsToBytes x := by
  have hl := congrArg List.length h
  rw [bytesToBits_length, List.length_append] at hl
  rw [← bitsToBytes_bytesToBits _ (bytes_lt_take bytes hb _), (bytesToBits_take bytes x r _ h (by omega)).1]

/-- **The structural parser inverts the serializer** (any layout rule the subframes are well-formed for, with or without
    the warm-up guard and CRC-8 enforcement): the parsed frame is the frame that was written (its footer field holding the
    checksum), all bytes are used and both checksum verdicts are positive. -/
theorem parseFrame_serialize (L : Layout) (cw enforce : Bool) (si : Option SInfo) (f : Frame) (w : FrameWf si f)
    (hs : subsWf L f.hdr.assign f.hdr.blockSize f.hdr.bps f.subs 0) :
    parseFrame L cw si f.serialize enforce = .ok
      { frame := { f with footer := crc16 (bitsToBytes (writeHeaderFields f.hdr) ++ [crc8 (bitsToBytes (writeHeaderFields f.hdr))] ++
            bitsToBytes (writeSubframes f.hdr.assign f.hdr.bps f.subs 0 ++ f.padding)) },
        used := f.serialize.length, hdrUsed := (bitsToBytes (writeHeaderFields f.hdr)).length + 1,
        crc8ok := true, crc16ok := true } := by
  have hH := writeHeaderFields_len8 si f.hdr w.hdr
  have hS : (writeSubframes f.hdr.assign f.hdr.bps f.subs 0 ++ f.padding).length % 8 = 0 := by
    rw [List.length_append]; exact w.aligned
  have hlt := serialize_bytes_lt f
  have hpad := w.padLt
  have hz : crc16 f.serialize = 0 := crc16_self _
  -- the footer `c16` by name; then the serialized frame over bits.  From here on the serializer, the subframe bits and
  -- the checksum stay folded
  generalize hc : crc16 (bitsToBytes (writeHeaderFields f.hdr) ++ [crc8 (bitsToBytes (writeHeaderFields f.hdr))] ++
    bitsToBytes (writeSubframes f.hdr.assign f.hdr.bps f.subs 0 ++ f.padding)) = c16
  have hc16 : c16 < 65536 := hc ▸ crc16_lt _
  have hbits : bytesToBits f.serialize = writeHeaderFields f.hdr ++ natToBits 8 f.hdr.hcrc ++
      (writeSubframes f.hdr.assign f.hdr.bps f.subs 0 ++ f.padding ++ natToBits 16 c16) := by
    rw [w.hcrc, ← bytesToBits_bitsToBytes _ (frame_aligned _ _ _ _ hH hS), bitsToBytes_frame _ _ _ _ hH hS (crc8_lt _) hc16, ← hc]
    rfl
  clear hc
  have hcount := w.count
  have hwr := readSubframes_write L cw f.hdr.assign f.hdr.blockSize f.hdr.bps f.subs 0 (f.padding ++ natToBits 16 c16) hs
  generalize writeSubframes f.hdr.assign f.hdr.bps f.subs 0 = S at hbits hS hwr
  generalize f.serialize = bytes at hbits hlt hz ⊢
  -- the header bytes, found from what is left behind the header
  have htake := take_consumed bytes hlt _ (S ++ (f.padding ++ natToBits 16 c16)) (by rw [hbits, List.append_assoc S])
    (hdr_aligned _ _ hH)
  rw [bitsToBytes_hdr _ _ hH w.hdr.hcrc] at htake
  have hk : bytes.length - (S ++ (f.padding ++ natToBits 16 c16)).length / 8 = (bitsToBytes (writeHeaderFields f.hdr)).length + 1 := by
    have l := congrArg List.length htake
    have lb := congrArg List.length hbits
    rw [List.length_take, List.length_append] at l
    rw [bytesToBits_length] at lb
    simp only [List.length_append, natToBits_length, List.length_cons, List.length_nil] at l lb ⊢
    omega
  have h8 : crc8Valid (crc8 (bytes.take (bytes.length - (S ++ (f.padding ++ natToBits 16 c16)).length / 8))) = true := by
    rw [htake, w.hcrc, crc8_self]; rfl
  have hmod : (f.padding ++ natToBits 16 c16).length % 8 = f.padding.length := by
    rw [List.length_append, natToBits_length]; omega
  refine parseFrame_ok_iff.mpr ⟨f.hdr, S ++ (f.padding ++ natToBits 16 c16), f.subs, f.padding ++ natToBits 16 c16, c16, [], ?_, w.check,
    fun _ => h8, hcount ▸ hwr, ?_, ?_⟩
  · rw [hbits, List.append_assoc S]; exact readHeaderFields_write si f.hdr _ w.hdr
  · rw [hmod, List.drop_left, ← List.append_nil (natToBits 16 c16)]; exact readU_natToBits_lt 16 hc16
  · -- the record: all bytes used, header bytes + 1, both verdicts positive
    have h8' := h8
    rw [hk] at h8'
    rw [hk, h8', hmod, List.take_left, List.length_nil, Nat.zero_div, Nat.sub_zero, List.take_length, hz]; rfl

/-- the samples each subframe expands to -/
def subsDecode (p : Profile) (a : Assign) (bs bps : Nat) : List Subframe → List (List Int) → Nat → Prop
  | [], [], _ => True
  | s :: ss, xs :: xss, i => decodeSub p (subWidth a bps i) bs s = .ok xs ∧ subsDecode p a bs bps ss xss (i + 1)
  | _, _, _ => False

/-- `read_subframes` = parse the subframes, then expand each (no serializer involved) -/
theorem decSubframes_ok_iff {p : Profile} {a : Assign} {bs bps n i : Nat} {b : Bits} {xss : List (List Int)} {r : Bits} :
    decSubframes p a bs bps n i b = .ok (xss, r) ↔
      ∃ ss, readSubframes decLayout true a bs bps n i b = .ok (ss, r) ∧ subsDecode p a bs bps ss xss i := by
  induction n generalizing i b xss with
  | zero =>
    simp only [decSubframes, readSubframes, Except.ok.injEq, Prod.mk.injEq]
    constructor
    · rintro ⟨rfl, rfl⟩; exact ⟨[], ⟨rfl, rfl⟩, trivial⟩
    · rintro ⟨ss, ⟨rfl, rfl⟩, hx⟩
      cases xss with
      | nil => exact ⟨rfl, rfl⟩
      | cons _ _ => exact hx.elim
  | succ n ih =>
    rw [decSubframes_succ, readSubframes_succ]
    simp only [bind_ok_iff, liftRes_ok_iff, pure_ok_iff, Prod.mk.injEq]
    constructor
    · rintro ⟨s, b1, h1, xs, _, ⟨_, h2, rfl, rfl⟩, xss', b2, h3, rfl, rfl⟩
      obtain ⟨ss, g1, g2⟩ := ih.mp h3
      exact ⟨s :: ss, ⟨s, _, h1, ss, _, g1, rfl, rfl⟩, h2, g2⟩
    · rintro ⟨_, ⟨s, b1, h1, ss, b2, g1, rfl, rfl⟩, hx⟩
      cases xss with
      | nil => exact hx.elim
      | cons xs xss' => exact ⟨s, b1, h1, xs, b1, ⟨xs, hx.1, rfl, rfl⟩, xss', _, ih.mpr ⟨ss, g1, hx.2⟩, rfl, rfl⟩

/-- **decoder = parser + expansion.**  The streaming decoder IS the structural parser (with the decoder's layout rule, the
    warm-up guard and CRC-8 enforced) followed by sample expansion, channel reconstruction and the CRC-16 test, so what is
    known about `parseFrame` transfers to `decodeFrame`. -/
theorem decodeFrame_iff_parse {p : Profile} {si : Option SInfo} {bytes : List Nat} {d : Decoded} :
    decodeFrame p si bytes = .ok d ↔
      ∃ pr xss, parseFrame decLayout true si bytes = .ok pr ∧ pr.crc16ok = true ∧ pr.frame.hdr.bps ≤ 32 ∧
        subsDecode p pr.frame.hdr.assign pr.frame.hdr.blockSize pr.frame.hdr.bps pr.frame.subs xss 0 ∧
        recorrelate p pr.frame.hdr.assign pr.frame.hdr.bps xss = .ok d.channels ∧ d.hdr = pr.frame.hdr ∧ d.used = pr.used := by
  rw [decodeFrame_ok_iff]
  constructor
  · rintro ⟨hd, rest, chs, rest2, out, c16, rest3, g1, g2, g8, hb, g3, g4, g5, g16, rfl⟩
    obtain ⟨ss, k1, k2⟩ := decSubframes_ok_iff.mp g3
    exact ⟨_, chs, parseFrame_ok_iff.mpr ⟨hd, rest, ss, rest2, c16, rest3, g1, g2, fun _ => g8, k1, g5, rfl⟩, g16, hb, k2, g4, rfl, rfl⟩
  · rintro ⟨pr, xss, hp, h16, hb, hx, hr, e1, e2⟩
    obtain ⟨hd, rest, ss, rest2, c16, rest3, g1, g2, g8, g3, g5, rfl⟩ := parseFrame_ok_iff.mp hp
    obtain ⟨dh, dc, du⟩ := d
    dsimp only at *
    subst e1 e2
    exact ⟨_, rest, xss, rest2, dc, c16, rest3, g1, g2, g8 rfl, hb, decSubframes_ok_iff.mpr ⟨ss, g3, hx⟩, hr, g5, h16, rfl⟩

/-- **The frame format round-trips.**  For every well-formed frame, whatever its subframes expand to and
    whatever channel reconstruction makes of that is exactly what the streaming decoder returns for the
    serialized bytes, using all of them. -/
theorem decodeFrame_serialize (p : Profile) (si : Option SInfo) (f : Frame) (xss out : List (List Int))
    (w : FrameWf si f)
    (hx : subsDecode p f.hdr.assign f.hdr.blockSize f.hdr.bps f.subs xss 0)
    (hr : recorrelate p f.hdr.assign f.hdr.bps xss = .ok out) :
    decodeFrame p si f.serialize = .ok { hdr := f.hdr, channels := out, used := f.serialize.length } :=
  decodeFrame_iff_parse.mpr ⟨_, xss, parseFrame_serialize decLayout true true si f w w.subs, rfl, w.bps, hx, hr, rfl, rfl⟩

end Flac
