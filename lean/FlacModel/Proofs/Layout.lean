/-
  Proofs/Layout.lean — the partition layout.  First the arithmetic of `rchunks`-style slicing (decode.rs `read_block`,
  encode.rs `best_partitions`) against the RFC 9639 layout (`rchunk_rfc`, `rfcLayout_eq_rchunks`); then: the three layout
  rules of the model are one function (`structLayout = decLayout = Spec.rfcLayout`), the sizes a rule hands out add up to
  the block behind the warm-up (`LayoutSums`, proved once: `rfcLayout_sum`), hence a rule only yields sizes for orders that
  fit the block (`LayoutFits`, all that the readers' soundness needs).
-/
import FlacModel.Model.Decode
import FlacModel.Spec.Rfc

namespace Flac

theorem rchunk_length (n c : Nat) : (rchunkSizes n c).length = (if n % c = 0 then 0 else 1) + n / c := by
  unfold rchunkSizes; split <;> simp <;> omega

/-- slicing `c·k − order` residuals into pieces of `c` gives exactly `k` pieces only if the first
    piece is non-empty and shorter than `c`, i.e. `order < c` -/
theorem rchunk_count_order {N : Nat} (c k order : Nat) (hN : N = c * k) (hc : 0 < c) (hk : 0 < k)
    (hlen : (rchunkSizes (N - order) c).length = k) : order < c := by
  subst hN
  rw [rchunk_length] at hlen
  have hdm := Nat.div_add_mod (c * k - order) c
  have hr := Nat.mod_lt (c * k - order) hc
  generalize (c * k - order) / c = q at hlen hdm
  generalize (c * k - order) % c = r at hlen hdm hr
  -- `q` full pieces and a remainder `r < c`: the count is `k` only for `(q, r) = (k, 0)` or `(k − 1, r > 0)`
  split at hlen
  · rw [Nat.zero_add] at hlen; subst hlen
    have := Nat.le_mul_of_pos_right c hk
    omega
  · subst hlen
    rw [Nat.mul_add, Nat.mul_one] at hdm
    omega

/-- the RFC layout written as `rchunks`: for `order < c` slicing `c·n − order` into pieces of `c`
    gives a first piece of `c − order` followed by `n − 1` full pieces -/
theorem rchunk_rfc {N : Nat} (c n order : Nat) (hN : N = c * n) (hc : order < c) (hn : 1 ≤ n) :
    rchunkSizes (N - order) c = (c - order) :: List.replicate (n - 1) c := by
  subst hN
  obtain ⟨n, rfl⟩ : ∃ m, n = m + 1 := ⟨n - 1, (Nat.sub_add_cancel hn).symm⟩
  have hcpos : 0 < c := Nat.zero_lt_of_lt hc
  -- `c·(n+1) − order = (c − order) + c·n`: quotient and remainder by `c` are those of `c − order`, plus `n` pieces
  rw [rchunkSizes, Nat.mul_succ, Nat.add_sub_assoc (Nat.le_of_lt hc), Nat.add_comm, Nat.add_mul_mod_self_left,
    Nat.add_mul_div_left _ _ hcpos, Nat.add_sub_cancel]
  by_cases ho : order = 0
  · rw [ho, Nat.sub_zero, Nat.mod_self, Nat.div_self hcpos, if_pos rfl, Nat.add_comm, List.replicate_succ]; rfl
  · have hlt : c - order < c := Nat.sub_lt hcpos (Nat.pos_of_ne_zero ho)
    rw [Nat.mod_eq_of_lt hlt, Nat.div_eq_of_lt hlt, if_neg (Nat.sub_ne_zero_of_lt hc), Nat.zero_add]; rfl

theorem div_mul_of_mod_zero (bs k : Nat) (h : bs % k = 0) : bs = bs / k * k :=
  (Nat.div_mul_cancel (Nat.dvd_of_mod_eq_zero h)).symm

theorem rfcLayout_eq_rchunks (bs order po : Nat) (hdiv : bs % 2 ^ po = 0) (hgt : order < bs / 2 ^ po) :
    Spec.rfcLayout bs order po = .ok (rchunkSizes (bs - order) (bs / 2 ^ po)) := by
  rw [Spec.rfcLayout, if_neg (fun h => h hdiv), if_neg (Nat.not_le.mpr hgt),
    rchunk_rfc (bs / 2 ^ po) (2 ^ po) order (div_mul_of_mod_zero bs _ hdiv) hgt (Nat.two_pow_pos po)]

/-! ### the three layout rules of the model are one function

`decLayout` (decode.rs, `rchunks` + count test), `structLayout` (stream.rs) and `Spec.rfcLayout` (RFC 9639 §9.2.7) agree
on every input, accepted or refused.  They do because both crate rules enforce the RFC's partition-order condition: the
regenerated flags `Gen.decLayoutRfc` and `Gen.structLayoutRfc` are `true` (by `rfl` below), and with either `false` the
equality fails.  Whatever is proved for one layout (`resWf`, `subsWf`, the readers' round trips) holds for the others by
rewriting. -/

theorem structLayout_eq_rfcLayout : structLayout = Spec.rfcLayout := by
  funext bs order po
  have h1 : Gen.structLayoutRfc = true := rfl
  simp only [structLayout, Spec.rfcLayout, h1, Bool.true_and]
  by_cases hdiv : bs % 2 ^ po = 0
  · by_cases hgt : bs / 2 ^ po ≤ order
    · simp [hdiv, hgt, Nat.not_lt.mpr hgt]
    · have h2 : bs / 2 ^ po > order := Nat.lt_of_not_le hgt
      simp [hdiv, hgt, h2, Nat.lt_asymm h2]
  · simp [hdiv]

theorem decLayout_eq_rfcLayout : decLayout = Spec.rfcLayout := by
  funext bs order po
  have h1 : Gen.decLayoutRfc = true := rfl
  by_cases hdiv : bs % 2 ^ po = 0
  · by_cases hgt : bs / 2 ^ po ≤ order
    · simp [decLayout, Spec.rfcLayout, h1, hdiv, hgt, Nat.not_lt.mpr hgt]
    · -- the RFC's condition holds: `rchunks` cuts exactly the RFC's partitions, 2^po of them
      have h2 : bs / 2 ^ po > order := Nat.lt_of_not_le hgt
      have h3 : ¬ bs / 2 ^ po = 0 := Nat.ne_of_gt (Nat.zero_lt_of_lt h2)
      have hlen : (rchunkSizes (bs - order) (bs / 2 ^ po)).length = 2 ^ po := by
        rw [rchunk_rfc (bs / 2 ^ po) (2 ^ po) order (div_mul_of_mod_zero bs _ hdiv) h2 (Nat.two_pow_pos po), List.length_cons,
          List.length_replicate, Nat.sub_add_cancel (Nat.two_pow_pos po)]
      rw [rfcLayout_eq_rchunks bs order po hdiv h2]
      simp [decLayout, h1, hdiv, h2, h3, hlen]
  · simp [decLayout, Spec.rfcLayout, h1, hdiv]

/-- the sizes a layout rule hands out and the predictor order add up to the block -/
def LayoutSums (layout : Layout) : Prop := ∀ bs o po sizes, layout bs o po = .ok sizes → sizes.sum + o = bs

/-- a layout rule only yields partition sizes for predictor orders that fit the block -/
def LayoutFits (layout : Layout) : Prop := ∀ bs o po sizes, layout bs o po = .ok sizes → o ≤ bs

theorem LayoutSums.fits {layout : Layout} (h : LayoutSums layout) : LayoutFits layout := fun bs o po sizes hs => by
  have := h bs o po sizes hs; omega

theorem rfcLayout_sum : LayoutSums Spec.rfcLayout := by
  intro bs order po sizes h
  unfold Spec.rfcLayout at h
  split at h; · cases h
  split at h; · cases h
  rename_i hdiv hlt
  obtain rfl := Except.ok.inj h
  -- `(c − order) + (k − 1)·c + order = c·k` where `k = 2^po ≥ 1`, `c = bs / k > order` and `c·k = bs`
  have hbs := div_mul_of_mod_zero bs (2 ^ po) (by omega)
  obtain ⟨k, hk⟩ : ∃ k, 2 ^ po = k + 1 := ⟨2 ^ po - 1, (Nat.sub_add_cancel (Nat.two_pow_pos po)).symm⟩
  rw [List.sum_cons, List.sum_replicate_nat]
  generalize bs / 2 ^ po = c at *
  rw [hk, Nat.mul_succ, Nat.mul_comm] at hbs
  rw [hk, Nat.add_sub_cancel]
  omega

theorem decLayout_sum : LayoutSums decLayout := decLayout_eq_rfcLayout ▸ rfcLayout_sum

theorem structLayout_sum : LayoutSums structLayout := structLayout_eq_rfcLayout ▸ rfcLayout_sum

theorem structLayout_eq_decLayout : structLayout = decLayout := structLayout_eq_rfcLayout.trans decLayout_eq_rfcLayout.symm

end Flac
