/-
  Proofs/ListAux.lean — facts about lists that mention nothing of the model: `flatMap` over pieces of known length (the
  serialisation arguments of C08, C11, C19 and the cue sheet codec: constant length; the fuel bounds of C01, C11, C14:
  pieces of at least one unit), rows of equal length (the channel readers of C06 / C07), `zip` with positions (C03).
-/
namespace Flac

theorem length_flatMap_const {α β : Type} (n : Nat) (f : α → List β) (xs : List α) (hf : ∀ x ∈ xs, (f x).length = n) :
    (xs.flatMap f).length = n * xs.length := by
  induction xs with
  | nil => rfl
  | cons x r ih =>
    rw [List.flatMap_cons, List.length_append, hf x (by simp), ih fun y hy => hf y (by simp [hy]), List.length_cons, Nat.mul_succ,
      Nat.add_comm]

theorem length_le_length_flatMap {α β : Type} (f : α → List β) (xs : List α) (hf : ∀ x ∈ xs, 1 ≤ (f x).length) :
    xs.length ≤ (xs.flatMap f).length := by
  induction xs with
  | nil => exact Nat.le_refl _
  | cons x r ih =>
    have := hf x (by simp)
    have := ih fun y hy => hf y (by simp [hy])
    rw [List.flatMap_cons, List.length_append, List.length_cons]
    omega

theorem map_fixed {β : Type} {g : β → β} {l : List β} (h : ∀ x ∈ l, g x = x) : l.map g = l :=
  (List.map_congr_left h).trans (List.map_id l)

theorem getD_length {α : Type} {l : List (List α)} {n : Nat} (h : ∀ x ∈ l, x.length = n) {c : Nat} (hc : c < l.length) :
    (l.getD c []).length = n := by
  rw [List.getD_eq_getElem?_getD, List.getElem?_eq_getElem hc]
  exact h _ (List.getElem_mem hc)

theorem getD_length_le {α : Type} {l : List (List α)} {n : Nat} (h : ∀ x ∈ l, x.length = n) (c : Nat) : (l.getD c []).length ≤ n := by
  by_cases hc : c < l.length
  · exact Nat.le_of_eq (getD_length h hc)
  · rw [List.getD_eq_getElem?_getD, List.getElem?_eq_none (Nat.le_of_not_lt hc)]
    exact Nat.zero_le n

theorem headD_map_drop {α : Type} (frame : List (List α)) (k : Nat) :
    ((frame.map (·.drop k)).headD []).length = (frame.headD []).length - k := by
  cases frame <;> simp

theorem length_le_flatMap_of_mem {α β : Type} (g : α → List β) {xs : List α} {x : α} (h : x ∈ xs) :
    (g x).length ≤ (xs.flatMap g).length :=
  (List.flatMap_def .. ▸ List.sublist_flatten_of_mem (List.mem_map_of_mem h)).length_le

theorem mem_zipWith_of_mem_zip {α β γ : Type} (g : α → β → γ) {l : List α} {r : List β} {ab : α × β} (h : ab ∈ List.zip l r) :
    g ab.1 ab.2 ∈ List.zipWith g l r := by
  rw [← List.map_uncurry_zip_eq_zipWith]; exact List.mem_map.mpr ⟨ab, h, rfl⟩

theorem all_zip_range {α : Type} (P : α → Nat → Bool) (xs : List α)
    (h : (xs.zip (List.range xs.length)).all (fun q => P q.1 q.2) = true) (j : Nat) (hj : j < xs.length) :
    P xs[j] j = true := by
  refine List.all_eq_true.mp h (xs[j], j) (List.mem_iff_getElem.mpr ⟨j, by simpa using hj, ?_⟩)
  rw [List.getElem_zip, List.getElem_range]

theorem isEmpty_flatMap_const {β γ : Type} {n : Nat} (hn : 0 < n) {f : β → List γ} (hf : ∀ x, (f x).length = n) (t : List β) :
    (t.flatMap f).isEmpty = t.isEmpty := by
  cases t with
  | nil => rfl
  | cons a t =>
    exact List.isEmpty_eq_false_iff.mpr (List.ne_nil_of_length_pos (by rw [List.flatMap_cons, List.length_append, hf a]; omega))

theorem flatMap_flatten {β γ : Type} (f : β → List γ) (B : List (List β)) : B.flatten.flatMap f = (B.map (·.flatMap f)).flatten := by
  induction B with
  | nil => rfl
  | cons b r ih => simp only [List.flatten_cons, List.flatMap_append, List.map_cons, ih]

theorem take_flatMap_const {β γ : Type} (n : Nat) (f : β → List γ) (hf : ∀ x, (f x).length = n) (r : List β) (k : Nat) :
    (r.flatMap f).take (n * k) = (r.take k).flatMap f := by
  induction r generalizing k with
  | nil => simp
  | cons x t ih =>
    cases k with
    | zero => simp
    | succ k => rw [List.flatMap_cons, List.take_succ_cons, List.flatMap_cons, Nat.mul_succ, Nat.add_comm, ← hf x,
        List.take_length_add_append, hf x, ih]

theorem getD_lt_of_all {T : List Nat} {n : Nat} (h : T.all (· < n) = true) (hn : 0 < n) (i : Nat) : T.getD i 0 < n := by
  rw [List.getD_eq_getElem?_getD]
  by_cases hi : i < T.length
  · rw [List.getElem?_eq_getElem hi]
    simpa using List.all_eq_true.mp h _ (List.getElem_mem hi)
  · rw [List.getElem?_eq_none (by omega)]; exact hn

theorem foldl_lt {β : Type} {upd : Nat → β → Nat} {n : Nat} (h : ∀ c b, upd c b < n) (bs : List β) (c : Nat) (hc : c < n) :
    bs.foldl upd c < n := by
  induction bs generalizing c with
  | nil => exact hc
  | cons x xs ih => exact ih _ (h _ _)

end Flac
