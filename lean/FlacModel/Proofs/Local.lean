/-
  Proofs/Local.lean — the frame parsers read strictly left to right.

  `Local p`: (ext) a successful read is unchanged by appending more input; (pre) cutting input off a
  successful read either changes nothing (the cut part was not needed) or fails with end-of-data —
  never with another error and never with another value; (suf) what a successful read leaves is a suffix
  of its input (every length bound below rests on this).  The primitive readers have it and sequencing
  preserves it (`local_closed`), so every frame reader has it (Proofs/Parser.lean).  C14 (interrupted
  encodes) and the frame-locality facts used by C05/C16 rest on this.
-/
import FlacModel.Proofs.FrameInv

namespace Flac
open Flac.Gen

structure Local {α : Type} (p : P α) : Prop where
  ext : ∀ b a r x, p b = .ok (a, r) → p (b ++ x) = .ok (a, r ++ x)
  pre : ∀ b x a r, p (b ++ x) = .ok (a, r) → (∃ r', p b = .ok (a, r') ∧ r = r' ++ x) ∨ p b = .error .eof
  suf : ∀ b a r, p b = .ok (a, r) → ∃ t, b = t ++ r

/-- a reader whose only failure is end-of-data needs `ext` and `suf` only: a cut either still succeeds, and then
    `ext` says with what, or it fails, and then with end-of-data -/
theorem Local.of_eof {α : Type} {p : P α} (ext : ∀ b a r x, p b = .ok (a, r) → p (b ++ x) = .ok (a, r ++ x))
    (suf : ∀ b a r, p b = .ok (a, r) → ∃ t, b = t ++ r) (eof : ∀ b e, p b = .error e → e = .eof) : Local p := by
  refine ⟨ext, fun b x a r h => ?_, suf⟩
  cases hb : p b with
  | error e => rw [eof b e hb]; exact Or.inr rfl
  | ok v =>
    rw [ext b v.1 v.2 x hb] at h
    cases h
    exact Or.inl ⟨v.2, rfl, rfl⟩

theorem local_pure {α : Type} (a : α) : Local (pure a : P α) :=
  ⟨fun b a' r x h => (by cases h; rfl), fun b x a' r h => (by cases h; exact Or.inl ⟨b, rfl, rfl⟩),
    fun b a' r h => (by cases h; exact ⟨[], rfl⟩)⟩

theorem local_fail {α : Type} (e : Fail) : Local (P.fail e : P α) :=
  ⟨fun b a r x h => (by cases h), fun b x a r h => (by cases h), fun b a r h => (by cases h)⟩

theorem local_closed : Closed (fun p => Local p) (fun _ => True) where
  pure := local_pure
  fail c := local_fail _
  bind {α β p f} hp hf := by
    constructor
    · intro b c r x h
      obtain ⟨a, r1, hpb, h⟩ := bind_ok_iff.mp h
      rw [bind_ok (hp.ext b a r1 x hpb)]
      exact (hf a ⟨b, r1, hpb⟩).ext r1 c r x h
    · intro b x c r h
      obtain ⟨a, r1, hpb, h⟩ := bind_ok_iff.mp h
      rcases hp.pre b x a r1 hpb with ⟨r1', h1, rfl⟩ | h1
      · rw [bind_ok h1]
        exact (hf a ⟨b, r1', h1⟩).pre r1' x c r h
      · right; simp only [bind, P.bind, h1]
    · intro b c r h
      obtain ⟨a, r1, hpb, h⟩ := bind_ok_iff.mp h
      obtain ⟨t1, e1⟩ := hp.suf b a r1 hpb
      obtain ⟨t2, e2⟩ := (hf a ⟨b, r1, hpb⟩).suf r1 c r h
      exact ⟨t1 ++ t2, by rw [e1, e2, List.append_assoc]⟩
  lift g _ := by
    cases g with
    | error e => exact local_fail e
    | ok c => exact local_pure c
  readBit := .of_eof (fun b a r x h => by rw [readBit_ok_iff.mp h]; rfl) (fun b a r h => ⟨[a], readBit_ok_iff.mp h⟩)
    readBit_error
  takeBits n := .of_eof
    (fun b a r x h => by
      obtain ⟨rfl, l⟩ := takeBits_ok_iff.mp h
      exact takeBits_ok_iff.mpr ⟨List.append_assoc .., l⟩)
    (fun b a r h => ⟨a, (takeBits_ok_iff.mp h).1⟩) (fun b e h => (takeBits_error_iff.mp h).1)
  readUnary0 := .of_eof
    (fun b a r x h => by rw [readUnary0_ok_iff.mp h]; exact readUnary0_ok_iff.mpr (List.append_assoc ..))
    (fun b a r h => ⟨_, readUnary0_ok_iff.mp h⟩) readUnary0_error
  readUnary1 := .of_eof
    (fun b a r x h => by rw [readUnary1_ok_iff.mp h]; exact readUnary1_ok_iff.mpr (List.append_assoc ..))
    (fun b a r h => ⟨_, readUnary1_ok_iff.mp h⟩) readUnary1_error

theorem local_skipBits (n : Nat) : Local (skipBits n) := by
  have e : skipBits n = (takeBits n >>= fun _ => pure ()) := by
    funext b; ladders skipBits; rcases takeBits n b with e | ⟨x, r⟩ <;> rfl
  exact e ▸ local_closed.seq (local_closed.takeBits n) fun _ => local_closed.pure _

theorem local_decSubframes (p : Profile) (a : Assign) (bs bps n i : Nat) : Local (decSubframes p a bs bps n i) :=
  local_closed.decSubframes p a bs bps (fun _ _ _ => trivial) (fun _ _ _ _ _ => trivial) n i

theorem Local.length_le {α} {p : P α} (hp : Local p) {b : Bits} {a : α} {r : Bits} (h : p b = .ok (a, r)) : r.length ≤ b.length := by
  obtain ⟨t, e⟩ := hp.suf b a r h
  rw [e]; simp

theorem Local.length_le_bytes {α} {p : P α} (hp : Local p) {bytes : List Nat} {a : α} {r : Bits}
    (h : p (bytesToBits bytes) = .ok (a, r)) : r.length ≤ 8 * bytes.length :=
  bytesToBits_length bytes ▸ hp.length_le h

/-- byte arithmetic shared by the two frame-level theorems: appending whole bytes to the input
    leaves "bytes consumed so far" and the consumed prefix unchanged -/
theorem consumed_append (bytes rest : List Nat) (r : Bits) (hr : r.length ≤ 8 * bytes.length) :
    (bytes ++ rest).length - (r ++ bytesToBits rest).length / 8 = bytes.length - r.length / 8
      ∧ (bytes ++ rest).take (bytes.length - r.length / 8) = bytes.take (bytes.length - r.length / 8) := by
  constructor
  · simp only [List.length_append, bytesToBits_length]; omega
  · exact List.take_append_of_le_length (by omega)

/-- the footer sits at the next byte boundary; whole bytes appended behind do not move it -/
theorem footer_append (r2 : Bits) (rest : List Nat) :
    (r2 ++ bytesToBits rest).drop ((r2 ++ bytesToBits rest).length % 8) = r2.drop (r2.length % 8) ++ bytesToBits rest := by
  have hmod : (r2 ++ bytesToBits rest).length % 8 = r2.length % 8 := by
    simp only [List.length_append, bytesToBits_length]; omega
  rw [hmod]; exact List.drop_append_of_le_length (Nat.mod_le _ _)

/-- **Frame locality (extension).**  A frame that decodes keeps decoding to the same result, with
    the same number of bytes consumed, whatever bytes follow it. -/
theorem decodeFrame_ext (p : Profile) (si : Option SInfo) (bytes : List Nat) (d : Decoded)
    (h : decodeFrame p si bytes = .ok d) (rest : List Nat) : decodeFrame p si (bytes ++ rest) = .ok d := by
  obtain ⟨hd, r1, chs, r2, out, c16, r3, h1, h2, h3, h4, h5, h6, h7, h9, rfl⟩ := decodeFrame_ok_iff.mp h
  have hdr := local_closed.readHeaderFields si
  have subs := local_decSubframes p hd.assign hd.blockSize hd.bps hd.assign.count 0
  have l1 := hdr.length_le_bytes h1
  have l3 : r3.length ≤ 8 * bytes.length := by
    have := (local_closed.readU 16).length_le h7
    have := subs.length_le h5
    simp only [List.length_drop] at *
    omega
  obtain ⟨c1, c2⟩ := consumed_append bytes rest r1 l1
  obtain ⟨e1, e2⟩ := consumed_append bytes rest r3 l3
  refine decodeFrame_ok_iff.mpr ⟨hd, r1 ++ bytesToBits rest, chs, r2 ++ bytesToBits rest, out, c16, r3 ++ bytesToBits rest, ?_, h2, ?_,
    h4, subs.ext _ _ _ _ h5, h6, ?_, by rw [e1, e2]; exact h9, by rw [e1]⟩
  · rw [bytesToBits_append]; exact hdr.ext _ _ _ _ h1
  · rw [c1, c2]; exact h3
  · rw [footer_append]; exact (local_closed.readU 16).ext _ _ _ _ h7

theorem parseHeaderBytes_ext (si : Option SInfo) (bytes : List Nat) (v : Header × Nat × Bool)
    (h : parseHeaderBytes si bytes = .ok v) (rest : List Nat) : parseHeaderBytes si (bytes ++ rest) = .ok v := by
  unfold parseHeaderBytes at h ⊢
  rw [bytesToBits_append]
  cases h1 : readHeaderFields si (bytesToBits bytes) with
  | error e => rw [h1] at h; cases h
  | ok v1 =>
    obtain ⟨hd, r1⟩ := v1
    rw [h1] at h; dsimp only at h
    rw [(local_closed.readHeaderFields si).ext _ hd r1 _ h1]; dsimp only
    have l1 := (local_closed.readHeaderFields si).length_le_bytes h1
    obtain ⟨c1, c2⟩ := consumed_append bytes rest r1 l1
    rw [c1, c2]
    exact h

/-- **Frame locality (truncation).**  If `part ++ x` is a frame that decodes using all of its bytes
    and `x` is not empty, then `part` alone is reported as cut short: either already its header runs
    out of data, or the header is read and the frame body does — never another error, never a value. -/
theorem decodeFrame_cut (p : Profile) (si : Option SInfo) (part x : List Nat) (d : Decoded)
    (h : decodeFrame p si (part ++ x) = .ok d) (hused : d.used = (part ++ x).length) (hx : x ≠ []) :
    parseHeaderBytes si part = .error .eof ∨
      ((∃ hv, parseHeaderBytes si part = .ok hv) ∧ decodeFrame p si part = .error .eof) := by
  obtain ⟨hd, r1, chs, r2, out, c16, r3, h1, h2, h3, h4, h5, h6, h7, _, rfl⟩ := decodeFrame_ok_iff.mp h
  have hdr := local_closed.readHeaderFields si
  have subs := local_decSubframes p hd.assign hd.blockSize hd.bps hd.assign.count 0
  dsimp only at hused
  rw [bytesToBits_append] at h1
  rcases hdr.pre _ _ _ _ h1 with ⟨r1', g1, rfl⟩ | g1
  · -- the header fits in `part`: follow `decodeFrame` on `part` until it runs out of data
    refine Or.inr ⟨by simp only [parseHeaderBytes, g1]; exact ⟨_, rfl⟩, ?_⟩
    have l1 := hdr.length_le_bytes g1
    obtain ⟨c1, c2⟩ := consumed_append part x r1' l1
    rw [c1, c2] at h3
    unfold decodeFrame
    rw [g1]; dsimp only
    rw [h2]; dsimp only
    rw [if_neg (by simpa using h3), if_neg (by omega)]
    rcases subs.pre _ _ _ _ h5 with ⟨r2', g3, rfl⟩ | g3
    · rw [g3]; dsimp only
      rw [h6]; dsimp only
      rw [footer_append] at h7
      rcases (local_closed.readU 16).pre _ _ _ _ h7 with ⟨r3', g5, rfl⟩ | g5
      · -- the whole frame would fit in `part`: impossible, all of `part ++ x` was used
        exfalso
        have := (local_closed.readU 16).length_le g5
        have := subs.length_le g3
        have : 0 < x.length := List.length_pos_iff.mpr hx
        simp only [List.length_append, bytesToBits_length, List.length_drop] at *
        omega
      · rw [g5]
    · rw [g3]
  · -- the header itself is cut
    exact Or.inl (by simp only [parseHeaderBytes, g1])

end Flac
