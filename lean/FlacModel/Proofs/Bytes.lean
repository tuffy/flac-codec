/-
  Proofs/Bytes.lean — byte-level facts shared by the metadata theorems: big/little endian integers, `takeBytes`, byte
  strings (`bytesOk`), packed words, and what a successful run of the block writers and readers says.
-/
import FlacModel.Model.Blocks
import FlacModel.Proofs.ListAux
import FlacModel.Proofs.Res

namespace Flac

theorem beNat_append (l : List Nat) (x : Nat) : beNat (l ++ [x]) = beNat l * 256 + x := by
  simp [beNat, List.foldl_append]

@[simp] theorem beBytes_length (n v : Nat) : (beBytes n v).length = n := by
  induction n generalizing v with
  | zero => rfl
  | succ n ih => simp [beBytes, ih]

theorem beNat_beBytes (n v : Nat) (h : v < 256 ^ n) : beNat (beBytes n v) = v := by
  induction n generalizing v with
  | zero => simp [beBytes, beNat] at *; omega
  | succ n ih =>
    simp only [beBytes, beNat_append]
    rw [ih (v / 256) (by rw [Nat.pow_succ] at h; omega)]
    omega

theorem beBytes_lt (n v : Nat) : ∀ x ∈ beBytes n v, x < 256 := by
  induction n generalizing v with
  | zero => simp [beBytes]
  | succ n ih =>
    intro x hx
    simp only [beBytes, List.mem_append, List.mem_singleton] at hx
    rcases hx with hx | hx
    · exact ih _ x hx
    · omega

@[simp] theorem leBytes_length (n v : Nat) : (leBytes n v).length = n := by
  induction n generalizing v with
  | zero => rfl
  | succ n ih => simp [leBytes, ih]

theorem leNat_leBytes (n v : Nat) (h : v < 256 ^ n) : leNat (leBytes n v) = v := by
  induction n generalizing v with
  | zero => simp [leBytes, leNat] at *; omega
  | succ n ih =>
    simp only [leBytes, leNat]
    rw [ih (v / 256) (by rw [Nat.pow_succ] at h; omega)]
    omega

/-- what a successful `takeBytes` says; read from right to left it is the step of every writer-then-reader
    proof, from left to right that of every reader-then-writer proof -/
theorem takeBytes_ok_iff {n : Nat} {b x r : List Nat} : takeBytes n b = .ok (x, r) ↔ b = x ++ r ∧ x.length = n := by
  unfold takeBytes
  constructor
  · split
    · intro h; cases h
    · intro h; cases h; exact ⟨(List.take_append_drop n b).symm, by simp; omega⟩
  · rintro ⟨rfl, rfl⟩; simp

theorem takeBytes_append {n : Nat} {xs : List Nat} (h : xs.length = n) (r : List Nat) : takeBytes n (xs ++ r) = .ok (xs, r) :=
  takeBytes_ok_iff.mpr ⟨rfl, h⟩

theorem takeBytes_length_append (xs r : List Nat) : takeBytes xs.length (xs ++ r) = .ok (xs, r) := takeBytes_append rfl r

theorem takeBytes_one (x : Nat) (r : List Nat) : takeBytes 1 (x :: r) = .ok ([x], r) := takeBytes_append (xs := [x]) rfl r

theorem takeBytes_three (x y z : Nat) (r : List Nat) : takeBytes 3 (x :: y :: z :: r) = .ok ([x, y, z], r) :=
  takeBytes_append (xs := [x, y, z]) rfl r

theorem takeBytes_all {n : Nat} {l : List Nat} (h : l.length = n) : takeBytes n l = .ok (l, []) :=
  takeBytes_ok_iff.mpr ⟨(List.append_nil l).symm, h⟩

/-! ### byte strings: every element below 256 (what a file is; the readers' inputs in the converse direction).  The predicate is
`Flac.C11.bytesOk` - the statements of C11b were written with that name -, its lemmas are `Flac.bytesOk_*`. -/

namespace C11

def bytesOk (l : List Nat) : Bool := l.all (· < 256)

end C11

open C11 (bytesOk)

theorem bytesOk_cons {x : Nat} {l : List Nat} : bytesOk (x :: l) = true ↔ x < 256 ∧ bytesOk l = true := by
  simp [bytesOk]

theorem bytesOk_append {a b : List Nat} : bytesOk (a ++ b) = true ↔ bytesOk a = true ∧ bytesOk b = true := by
  simp [bytesOk]

theorem bytesOk_take {l : List Nat} (n : Nat) (h : bytesOk l = true) : bytesOk (l.take n) = true :=
  (bytesOk_append.mp ((List.take_append_drop n l).symm ▸ h)).1

theorem bytesOk_drop {l : List Nat} (n : Nat) (h : bytesOk l = true) : bytesOk (l.drop n) = true :=
  (bytesOk_append.mp ((List.take_append_drop n l).symm ▸ h)).2

theorem bytesOk_headD_lt {l : List Nat} (h : bytesOk l = true) : l.headD 0 < 256 := by
  cases l with
  | nil => exact Nat.zero_lt_succ _
  | cons x r => exact (bytesOk_cons.mp h).1

theorem beNat_lt {l : List Nat} (h : bytesOk l = true) : beNat l < 256 ^ l.length := by
  -- `beNat` folds from the left, so the step (`beNat_append`) is at the end of the list: induction on the reversed list
  have key : ∀ r : List Nat, bytesOk r = true → beNat r.reverse < 256 ^ r.length := by
    intro r hr
    induction r with
    | nil => exact Nat.one_pos
    | cons x r ih =>
      obtain ⟨hx, hr⟩ := bytesOk_cons.mp hr
      have := ih hr
      rw [List.reverse_cons, beNat_append, List.length_cons, Nat.pow_succ]
      omega
  simpa using key l.reverse (by simpa [bytesOk] using h)

theorem beNat_lt_pow {l : List Nat} (h : bytesOk l = true) {n : Nat} (hl : l.length ≤ n) : beNat l < 256 ^ n :=
  Nat.lt_of_lt_of_le (beNat_lt h) (Nat.pow_le_pow_right (by omega) hl)

theorem beNat_beBytes_u64 {n : Nat} (h : n ≤ u64Max) : beNat (beBytes 8 n) = n := beNat_beBytes 8 n (Nat.lt_succ_of_le h)

theorem beNat_le_u64 {l : List Nat} (hb : bytesOk l = true) (hl : l.length = 8) : beNat l ≤ u64Max :=
  Nat.le_of_lt_succ (beNat_lt_pow hb (Nat.le_of_eq hl))

theorem beNat_take_lt {l : List Nat} (h : bytesOk l = true) (k : Nat) : beNat (l.take k) < 256 ^ k :=
  beNat_lt_pow (bytesOk_take k h) (List.length_take_le k l)

/-! ### packed words: one field on top of `k` low bits (STREAMINFO's 144-bit header is seven such steps) -/

theorem pack_mod {x lo k : Nat} (h : lo < 2 ^ k) : (x * 2 ^ k + lo) % 2 ^ k = lo := by
  rw [Nat.mul_comm, Nat.mul_add_mod, Nat.mod_eq_of_lt h]

theorem pack_div {x lo k n : Nat} (h : lo < 2 ^ k) (hk : k ≤ n) : (x * 2 ^ k + lo) / 2 ^ n = x / 2 ^ (n - k) := by
  obtain ⟨j, rfl⟩ := Nat.exists_eq_add_of_le hk
  rw [Nat.add_sub_cancel_left, Nat.pow_add, ← Nat.div_div_eq_div_mul, Nat.mul_comm x,
    Nat.mul_add_div (Nat.two_pow_pos k), Nat.div_eq_of_lt h, Nat.add_zero]

theorem pack_lt {x lo m k : Nat} (hx : x < 2 ^ m) (h : lo < 2 ^ k) : x * 2 ^ k + lo < 2 ^ (m + k) := by
  rw [Nat.pow_add]
  calc x * 2 ^ k + lo < x * 2 ^ k + 2 ^ k := Nat.add_lt_add_left h _
    _ = (x + 1) * 2 ^ k := by rw [Nat.add_mul, Nat.one_mul]
    _ ≤ 2 ^ m * 2 ^ k := Nat.mul_le_mul_right _ hx

/-! ### the block writers, read backwards

(`writeBlocks`, `readBlock` and `readBlocks` match a nested constructor pattern and then `_`; `fun_cases` on such a function
generates auxiliary declarations for that match, and two modules that generate them independently cannot be imported together.
`fun_cases` is asked for the three here and nowhere else.  `readRawBlocks` (Model/FileDecode) has the same shape: Proofs/FileHead unfolds
it instead.) -/

theorem writeBlock_ok_iff {last : Bool} {b : Block} {out : List Nat} :
    writeBlock last b = .ok out ↔
      ∃ bs, b.body = .ok bs ∧ bs.length ≤ maxBlockSize ∧ out = [(if last then 128 else 0) + b.type] ++ beBytes 3 bs.length ++ bs := by
  constructor
  · fun_cases writeBlock last b <;> intro h <;> cases h
    exact ⟨_, ‹_›, by omega, rfl⟩
  · rintro ⟨bs, hb, hl, rfl⟩
    simp only [writeBlock, hb, Nat.not_lt.mpr hl, ↓reduceIte]

theorem Block.type_le (b : Block) : b.type ≤ 6 := by cases b <;> simp [Block.type]

/-- a written block as the two block walkers (`readBlock`, `readRawBlocks`) see it: four header bytes, from which they compute
    the `last` flag, the type and the body length, then the body -/
theorem writeBlock_ok_cons {last : Bool} {b : Block} {out : List Nat} (h : writeBlock last b = .ok out) :
    ∃ bs hd n1 n2 n3, b.body = .ok bs ∧ out = hd :: n1 :: n2 :: n3 :: bs ∧ hd % 128 = b.type ∧ (hd / 128 == 1) = last
      ∧ beNat [n1, n2, n3] = bs.length := by
  -- the `last` flag and the type share the first byte; a type is below 128
  have hd (t : Nat) (ht : t < 128) : ((if last then 128 else 0) + t) % 128 = t ∧ (((if last then 128 else 0) + t) / 128 == 1) = last := by
    cases last <;> simp only [↓reduceIte, Bool.false_eq_true, Nat.zero_add, Nat.add_mod_left, Nat.add_div_left _ (Nat.zero_lt_succ 127),
      Nat.mod_eq_of_lt ht, Nat.div_eq_of_lt ht, Nat.reduceBEq, and_self]
  obtain ⟨bs, hb, hsz, rfl⟩ := writeBlock_ok_iff.mp h
  have : maxBlockSize = 2 ^ 24 - 1 := rfl
  have ht : b.type < 128 := Nat.lt_of_le_of_lt b.type_le (by decide)
  exact ⟨bs, _, _, _, _, hb, rfl, (hd _ ht).1, (hd _ ht).2, beNat_beBytes 3 bs.length (by omega)⟩

theorem writeRest_cons_ok_iff {s : Seen} {b : Block} {bs : List Block} {out : List Nat} :
    writeRest s (b :: bs) = .ok out ↔
      ∃ s' x y, checkUnique s b = .ok s' ∧ writeBlock bs.isEmpty b = .ok x ∧ writeRest s' bs = .ok y ∧ out = x ++ y := by
  constructor
  · generalize hl : b :: bs = l
    fun_cases writeRest s l <;> intro h <;> cases h <;> cases hl
    exact ⟨_, _, _, ‹_›, ‹_›, ‹_›, rfl⟩
  · rintro ⟨s', x, y, hc, hx, hy, rfl⟩
    simp only [writeRest, hc, hx, hy]

/-- every block takes at least its header, so fuel equal to the number of bytes takes the block walkers through every block -/
theorem length_le_writeRest {bs : List Block} {s : Seen} {y : List Nat} (h : writeRest s bs = .ok y) : bs.length ≤ y.length := by
  induction bs generalizing s y with
  | nil => exact Nat.zero_le _
  | cons b r ih =>
    obtain ⟨s', x, y', -, hx, hy, rfl⟩ := writeRest_cons_ok_iff.mp h
    obtain ⟨_, _, _, _, _, -, rfl, -⟩ := writeBlock_ok_cons hx
    have := ih hy
    simp only [List.length_cons, List.length_append]; omega

theorem writeBlocks_ok_iff {bl : List Block} {out : List Nat} :
    writeBlocks bl = .ok out ↔
      ∃ si rest x y, bl = .streaminfo si :: rest ∧ writeBlock rest.isEmpty (.streaminfo si) = .ok x ∧ writeRest {} rest = .ok y
        ∧ out = 0x66 :: 0x4C :: 0x61 :: 0x43 :: (x ++ y) := by
  constructor
  · fun_cases writeBlocks bl <;> intro h <;> cases h
    exact ⟨_, _, _, _, rfl, ‹_›, ‹_›, rfl⟩
  · rintro ⟨si, rest, x, y, rfl, hx, hy, rfl⟩
    simp only [writeBlocks, hx, hy, List.cons_append, List.nil_append]

theorem readBlock_of_ok {bytes : List Nat} {last : Bool} {b : Block} {rest : List Nat} (h : readBlock bytes = .ok (last, b, rest)) :
    ∃ hd sz tl, bytes = hd :: (sz ++ tl) ∧ sz.length = 3 ∧ beNat sz ≤ tl.length
      ∧ parseBody (hd % 128) (beNat sz) (tl.take (beNat sz)) = .ok (b, []) ∧ last = (hd / 128 == 1) ∧ rest = tl.drop (beNat sz) := by
  revert h
  fun_cases readBlock bytes <;> intro h <;> cases h
  rename_i hd n1 n2 n3 tl _ left hchk hp
  simp only [Bool.or_eq_true, Bool.not_eq_true', bne_iff_ne, ne_eq, not_or, Bool.not_eq_false, Decidable.not_not, List.isEmpty_iff,
    List.length_take] at hchk
  obtain ⟨rfl, hl⟩ := hchk
  exact ⟨hd, [n1, n2, n3], tl, rfl, rfl, by omega, hp, rfl, rfl⟩

theorem readBlock_rest_le {bytes rest : List Nat} {last : Bool} {b : Block} (h : readBlock bytes = .ok (last, b, rest)) :
    rest.length ≤ bytes.length := by
  obtain ⟨_, _, tl, rfl, -, -, -, -, rfl⟩ := readBlock_of_ok h
  simp only [List.length_cons, List.length_append, List.length_drop]; omega

theorem readRest_succ_of_ok {fuel : Nat} {s : Seen} {bytes : List Nat} {used : Nat} {bl : List Block} {u : Nat}
    (h : readRest (fuel + 1) s bytes used = .ok (bl, u)) :
    ∃ last b rest s', readBlock bytes = .ok (last, b, rest) ∧ checkUnique s b = .ok s' ∧
      ((last = true ∧ bl = [b] ∧ u = used + (bytes.length - rest.length)) ∨
       (last = false ∧ ∃ bs, readRest fuel s' rest (used + (bytes.length - rest.length)) = .ok (bs, u) ∧ bl = b :: bs)) := by
  generalize hf : fuel + 1 = f at h
  revert h
  fun_cases readRest f s bytes used <;> intro h <;> cases h <;> cases hf
  · exact ⟨_, _, _, _, ‹_›, ‹_›, .inl ⟨rfl, rfl, rfl⟩⟩
  · exact ⟨_, _, _, _, ‹_›, ‹_›, .inr ⟨by simpa using ‹¬ _ = true›, _, ‹_›, rfl⟩⟩

theorem readBlocks_of_ok {bytes : List Nat} {bl : List Block} {n : Nat} (h : readBlocks bytes = .ok (bl, n)) :
    ∃ last si rest, 4 ≤ bytes.length ∧ readBlock (bytes.drop 4) = .ok (last, .streaminfo si, rest) ∧
      ((last = true ∧ bl = [.streaminfo si] ∧ n = bytes.length - rest.length) ∨
       (last = false ∧ ∃ bs, readRest (bytes.length + 1) {} rest (bytes.length - rest.length) = .ok (bs, n) ∧ bl = .streaminfo si :: bs)) := by
  revert h
  fun_cases readBlocks bytes <;> intro h <;> cases h
  · exact ⟨_, _, _, Nat.not_lt.mp ‹_›, ‹_›, .inl ⟨rfl, rfl, rfl⟩⟩
  · exact ⟨_, _, _, Nat.not_lt.mp ‹_›, ‹_›, .inr ⟨by simpa using ‹¬ _ = true›, _, ‹_›, rfl⟩⟩

theorem readRest_used_le {fuel : Nat} {s : Seen} {bytes : List Nat} {used : Nat} {bl : List Block} {u : Nat}
    (h : readRest fuel s bytes used = .ok (bl, u)) : u ≤ used + bytes.length := by
  induction fuel generalizing s bytes used bl with
  | zero => cases h
  | succ fuel ih =>
    obtain ⟨_, _, rest, _, hb, -, ⟨-, -, rfl⟩ | ⟨-, _, hr, -⟩⟩ := readRest_succ_of_ok h
    · have := readBlock_rest_le hb; omega
    · have := readBlock_rest_le hb
      have := ih hr
      omega

/-- the reader never claims to have consumed more than the file holds -/
theorem readBlocks_used_le {file : List Nat} {bl : List Block} {n : Nat} (h : readBlocks file = .ok (bl, n)) : n ≤ file.length := by
  obtain ⟨_, _, rest, -, hb, ⟨-, -, rfl⟩ | ⟨-, _, hr, -⟩⟩ := readBlocks_of_ok h
  · omega
  · have := readBlock_rest_le hb
    have := readRest_used_le hr
    simp only [List.length_drop] at *; omega

end Flac
