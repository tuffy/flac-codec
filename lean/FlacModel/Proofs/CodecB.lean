/-
  Proofs/CodecB.lean — the executable test `frameWfB` (Model/FrameWf.lean) is sound for the propositional
  well-formedness `FrameWf` that the round-trip theorem assumes.
-/
import FlacModel.Model.FrameWf
import FlacModel.Proofs.Codec

namespace Flac
open Gen

theorem partWfB_sound (pbits n : Nat) (pt : Partition) (h : partWfB pbits n pt = true) : partWf pbits n pt := by
  cases pt with
  | rice k rs =>
    simp only [partWfB, Bool.and_eq_true, decide_eq_true_eq, beq_iff_eq, List.all_eq_true] at h
    refine ⟨h.1.1, h.1.2, fun r hr => ?_⟩
    have := h.2 r hr
    simp only [resOkB, Bool.and_eq_true, decide_eq_true_eq] at this
    exact this
  | escaped w rs =>
    simp only [partWfB, Bool.and_eq_true, decide_eq_true_eq, beq_iff_eq, List.all_eq_true, and_assoc] at h
    exact h
  | zero m =>
    simp only [partWfB, beq_iff_eq] at h
    exact h

theorem partsWfB_sound (pbits : Nat) (ns : List Nat) (pts : List Partition) (h : partsWfB pbits ns pts = true) :
    partsWf pbits ns pts := by
  induction ns generalizing pts with
  | nil =>
    cases pts with
    | nil => trivial
    | cons _ _ => simp [partsWfB] at h
  | cons n ns ih =>
    cases pts with
    | nil => simp [partsWfB] at h
    | cons pt pts =>
      simp only [partsWfB, Bool.and_eq_true] at h
      exact ⟨partWfB_sound _ _ _ h.1, ih pts h.2⟩

theorem resWfB_sound (layout : Layout) (bs order : Nat) (r : Residual) (h : resWfB layout bs order r = true) :
    resWf layout bs order r := by
  simp only [resWfB, Bool.and_eq_true, decide_eq_true_eq] at h
  obtain ⟨⟨h1, h2⟩, h3⟩ := h
  cases hl : layout bs order r.order with
  | error e => rw [hl] at h3; simp [layoutPartsB] at h3
  | ok sizes =>
    rw [hl] at h3
    exact ⟨h1, h2, sizes, hl, partsWfB_sound _ _ _ h3⟩

theorem subWfB_sound (layout : Layout) (bs bps : Nat) (s : Subframe) (h : subWfB layout bs bps s = true) :
    subWf layout bs bps s := by
  obtain ⟨wasted, body⟩ := s
  simp only [subWfB, Bool.and_eq_true, decide_eq_true_eq] at h
  refine ⟨h.1, ?_⟩
  have hb := h.2
  cases body with
  | constant v => exact hb
  | verbatim xs =>
    simp only [bodyWfB, Bool.and_eq_true, beq_iff_eq, List.all_eq_true] at hb
    exact ⟨hb.1, hb.2⟩
  | fixed o warm res =>
    simp only [bodyWfB, Bool.and_eq_true, beq_iff_eq, List.all_eq_true, decide_eq_true_eq, and_assoc] at hb
    obtain ⟨a, b, c, d, e⟩ := hb
    exact ⟨a, b, c, d, resWfB_sound _ _ _ _ e⟩
  | lpc o warm prec shift coefs res =>
    simp only [bodyWfB, Bool.and_eq_true, beq_iff_eq, List.all_eq_true, decide_eq_true_eq, and_assoc] at hb
    obtain ⟨a, b, c, d, e, f, g, i, j, k, l⟩ := hb
    exact ⟨a, b, c, d, e, f, g, i, j, k, resWfB_sound _ _ _ _ l⟩

theorem subsWfB_sound (layout : Layout) (a : Assign) (bs bps : Nat) (ss : List Subframe) (i : Nat)
    (h : subsWfB layout a bs bps ss i = true) : subsWf layout a bs bps ss i := by
  induction ss generalizing i with
  | nil => trivial
  | cons s ss ih =>
    simp only [subsWfB, Bool.and_eq_true] at h
    exact ⟨subWfB_sound _ _ _ _ h.1, ih (i + 1) h.2⟩

theorem numWfB_sound (v n : Nat) (h : numWfB v n = true) : numWf v n := by
  simp only [numWfB, Bool.or_eq_true, Bool.and_eq_true, beq_iff_eq, decide_eq_true_eq] at h
  rcases h with ⟨a, b⟩ | ⟨⟨a, b⟩, c⟩
  · exact Or.inl ⟨a, b⟩
  · exact Or.inr ⟨a, b, c⟩

theorem assignOkB_sound (a : Assign) (h : assignOkB a = true) : assignOk a := by
  cases a with
  | indep n => simp only [assignOkB, Bool.and_eq_true, decide_eq_true_eq] at h; exact h
  | leftSide => trivial
  | sideRight => trivial
  | midSide => trivial

theorem headerWfB_sound (si : Option SInfo) (h : Header) (w : headerWfB si h = true) : HeaderWf si h := by
  simp only [headerWfB, Bool.and_eq_true, decide_eq_true_eq, Bool.not_eq_true', beq_iff_eq, and_assoc] at w
  obtain ⟨a1, a2, a3, a4, a5, a6, a7, a8, a9, a10, a11, a12, a13, a14⟩ := w
  refine { bsCode := a1, bsValid := a2, rateCode := a3, rateValid := a4, rateSubset := a5, assign := assignOkB_sound _ a6,
           bpsCode := a7, bpsValid := a8, bpsSubset := a9, bps := a10, number := numWfB_sound _ _ a11,
           blockSize := ?_, rate := ?_, hcrc := a14 }
  -- a Boolean `if` ladder is true iff the same ladder over the propositions holds
  · simpa only [blockSizeOkB, Bool.ite_eq_true_distrib, Bool.and_eq_true, decide_eq_true_eq, beq_iff_eq] using a12
  · simpa only [rateOkB, Bool.ite_eq_true_distrib, Bool.and_eq_true, decide_eq_true_eq, beq_iff_eq] using a13

theorem frameWfB_sound (si : Option SInfo) (f : Frame) (w : frameWfB si f = true) : FrameWf si f := by
  simp only [frameWfB, Bool.and_eq_true, decide_eq_true_eq, beq_iff_eq, and_assoc] at w
  obtain ⟨a1, a2, a3, a4, a5, a6, a7, a8⟩ := w
  refine { hdr := headerWfB_sound _ _ a1, hcrc := a2, check := ?_, bps := a4, count := a5,
           subs := subsWfB_sound _ _ _ _ _ _ a6, padLt := a7, aligned := a8 }
  cases hc : checkStreaminfo si f.hdr with
  | error e => rw [hc] at a3; simp [checkOkB] at a3
  | ok u => cases u; rfl

end Flac
