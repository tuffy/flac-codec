/-
  Proofs/FrameInv.lean — the two frame-level functions of the model (`parseFrame`, the structural parser; `decodeFrame`,
  the streaming decoder) in bind form (`parseFrame_eq`, `decodeFrame_eq`: the model spells each step out as a `match`), and
  what acceptance of a frame MEANS for each, as one equivalence: the chain of reader results and tests that an `.ok`
  stands for (`parseFrame_ok_iff`, `decodeFrame_ok_iff`).  Proofs about an accepted frame open the functions through the
  equivalences, proofs about every outcome (`C04.decode_no_panic`) through the bind forms; the factorisation
  `decodeFrame_iff_parse` (Proofs/Codec.lean) then reduces what is to be known about the decoder to the parser plus
  sample expansion.
-/
import FlacModel.Proofs.Parser
import FlacModel.Proofs.Res

namespace Flac
open Gen

theorem parseFrame_eq (L : Layout) (cw : Bool) (si : Option SInfo) (bytes : List Nat) (enforce : Bool) :
    parseFrame L cw si bytes enforce =
    (readHeaderFields si (bytesToBits bytes) >>= fun hr =>
     checkStreaminfo si hr.1 >>= fun _ =>
     if enforce && !crc8Valid (crc8 (bytes.take (bytes.length - hr.2.length / 8))) then .error (.err "Crc8Mismatch") else
     readSubframes L cw hr.1.assign hr.1.blockSize hr.1.bps hr.1.assign.count 0 hr.2 >>= fun sr =>
     readU 16 (sr.2.drop (sr.2.length % 8)) >>= fun ur =>
     .ok { frame := { hdr := hr.1, subs := sr.1, padding := sr.2.take (sr.2.length % 8), footer := ur.1 },
           used := bytes.length - ur.2.length / 8, hdrUsed := bytes.length - hr.2.length / 8,
           crc8ok := crc8Valid (crc8 (bytes.take (bytes.length - hr.2.length / 8))),
           crc16ok := crc16Valid (crc16 (bytes.take (bytes.length - ur.2.length / 8))) }) := by
  unfold parseFrame
  simp only [bind, Except.bind]
  rcases readHeaderFields si (bytesToBits bytes) with e | ⟨h, rest⟩ <;> dsimp only
  rcases checkStreaminfo si h with e | ⟨⟩ <;> dsimp only
  refine ite_congr rfl (fun _ => rfl) fun _ => ?_
  rcases readSubframes L cw h.assign h.blockSize h.bps h.assign.count 0 rest with e | ⟨subs, rest2⟩ <;> dsimp only
  rcases readU 16 (rest2.drop (rest2.length % 8)) with e | ⟨c, rest3⟩ <;> rfl

theorem parseFrame_ok_iff {L : Layout} {cw : Bool} {si : Option SInfo} {bytes : List Nat} {enforce : Bool} {pr : Parsed} :
    parseFrame L cw si bytes enforce = .ok pr ↔
      ∃ hd rest subs rest2 c16 rest3,
        readHeaderFields si (bytesToBits bytes) = .ok (hd, rest) ∧ checkStreaminfo si hd = .ok () ∧
        (enforce = true → crc8Valid (crc8 (bytes.take (bytes.length - rest.length / 8))) = true) ∧
        readSubframes L cw hd.assign hd.blockSize hd.bps hd.assign.count 0 rest = .ok (subs, rest2) ∧
        readU 16 (rest2.drop (rest2.length % 8)) = .ok (c16, rest3) ∧
        pr = { frame := { hdr := hd, subs := subs, padding := rest2.take (rest2.length % 8), footer := c16 },
               used := bytes.length - rest3.length / 8, hdrUsed := bytes.length - rest.length / 8,
               crc8ok := crc8Valid (crc8 (bytes.take (bytes.length - rest.length / 8))),
               crc16ok := crc16Valid (crc16 (bytes.take (bytes.length - rest3.length / 8))) } := by
  rw [parseFrame_eq]
  simp only [res_bind_ok_iff, res_guard_ok_iff, Bool.and_eq_true, Bool.not_eq_true', not_and, Bool.not_eq_false, Except.ok.injEq,
    Prod.exists]
  constructor
  · rintro ⟨hd, rest, g1, _, g2, g8, subs, rest2, g3, c16, rest3, g4, rfl⟩
    exact ⟨hd, rest, subs, rest2, c16, rest3, g1, g2, g8, g3, g4, rfl⟩
  · rintro ⟨hd, rest, subs, rest2, c16, rest3, g1, g2, g8, g3, g4, rfl⟩
    exact ⟨hd, rest, g1, (), g2, g8, subs, rest2, g3, c16, rest3, g4, rfl⟩
theorem decodeFrame_eq (p : Profile) (si : Option SInfo) (bytes : List Nat) : decodeFrame p si bytes =
    (readHeaderFields si (bytesToBits bytes) >>= fun hr =>
     checkStreaminfo si hr.1 >>= fun _ =>
     if !crc8Valid (crc8 (bytes.take (bytes.length - hr.2.length / 8))) then .error (.err "Crc8Mismatch") else
     if hr.1.bps > 32 then .error (.err "ExcessiveBps") else
     decSubframes p hr.1.assign hr.1.blockSize hr.1.bps hr.1.assign.count 0 hr.2 >>= fun cr =>
     recorrelate p hr.1.assign hr.1.bps cr.1 >>= fun out =>
     readU 16 (cr.2.drop (cr.2.length % 8)) >>= fun ur =>
     if !crc16Valid (crc16 (bytes.take (bytes.length - ur.2.length / 8))) then .error (.err "Crc16Mismatch")
     else .ok { hdr := hr.1, channels := out, used := bytes.length - ur.2.length / 8 }) := by
  unfold decodeFrame
  simp only [bind, Except.bind]
  rcases readHeaderFields si (bytesToBits bytes) with e | ⟨h, rest⟩ <;> dsimp only
  rcases checkStreaminfo si h with e | ⟨⟩ <;> dsimp only
  refine ite_congr rfl (fun _ => rfl) fun _ => ite_congr rfl (fun _ => rfl) fun _ => ?_
  rcases decSubframes p h.assign h.blockSize h.bps h.assign.count 0 rest with e | ⟨chs, rest2⟩ <;> dsimp only
  rcases recorrelate p h.assign h.bps chs with e | out <;> dsimp only
  rcases readU 16 (rest2.drop (rest2.length % 8)) with e | ⟨c, rest3⟩ <;> rfl

theorem decodeFrame_ok_iff {p : Profile} {si : Option SInfo} {bytes : List Nat} {d : Decoded} :
    decodeFrame p si bytes = .ok d ↔
      ∃ hd rest chs rest2 out c16 rest3,
        readHeaderFields si (bytesToBits bytes) = .ok (hd, rest) ∧ checkStreaminfo si hd = .ok () ∧
        crc8Valid (crc8 (bytes.take (bytes.length - rest.length / 8))) = true ∧ hd.bps ≤ 32 ∧
        decSubframes p hd.assign hd.blockSize hd.bps hd.assign.count 0 rest = .ok (chs, rest2) ∧
        recorrelate p hd.assign hd.bps chs = .ok out ∧
        readU 16 (rest2.drop (rest2.length % 8)) = .ok (c16, rest3) ∧
        crc16Valid (crc16 (bytes.take (bytes.length - rest3.length / 8))) = true ∧
        d = { hdr := hd, channels := out, used := bytes.length - rest3.length / 8 } := by
  rw [decodeFrame_eq]
  simp only [res_bind_ok_iff, res_guard_ok_iff, Bool.not_eq_true', Bool.not_eq_false, Nat.not_lt, Except.ok.injEq, Prod.exists]
  constructor
  · rintro ⟨hd, rest, g1, _, g2, g8, hb, chs, rest2, g3, out, g4, c16, rest3, g5, g16, rfl⟩
    exact ⟨hd, rest, chs, rest2, out, c16, rest3, g1, g2, g8, hb, g3, g4, g5, g16, rfl⟩
  · rintro ⟨hd, rest, chs, rest2, out, c16, rest3, g1, g2, g8, hb, g3, g4, g5, g16, rfl⟩
    exact ⟨hd, rest, g1, (), g2, g8, hb, chs, rest2, g3, out, g4, c16, rest3, g5, g16, rfl⟩
theorem parseFrame_crc {L : Layout} {cw : Bool} {si : Option SInfo} {bytes : List Nat} {enforce : Bool} {pr : Parsed}
    (h : parseFrame L cw si bytes enforce = .ok pr) :
    pr.crc8ok = crc8Valid (crc8 (bytes.take pr.hdrUsed)) ∧ pr.crc16ok = crc16Valid (crc16 (bytes.take pr.used)) := by
  obtain ⟨hd, rest, subs, rest2, c16, rest3, _, _, _, _, _, rfl⟩ := parseFrame_ok_iff.mp h
  exact ⟨rfl, rfl⟩

theorem parseFrame_enforced {L : Layout} {cw : Bool} {si : Option SInfo} {bytes : List Nat} {pr : Parsed}
    (h : parseFrame L cw si bytes true = .ok pr) : pr.crc8ok = true := by
  obtain ⟨hd, rest, subs, rest2, c16, rest3, _, _, g8, _, _, rfl⟩ := parseFrame_ok_iff.mp h
  exact g8 rfl

/-- the header of an accepted frame is what the header parser alone reads, with a valid CRC-8 -/
theorem decodeFrame_header {p : Profile} {si : Option SInfo} {f : List Nat} {d : Decoded} (h : decodeFrame p si f = .ok d) :
    ∃ n, parseHeaderBytes si f = .ok (d.hdr, n, true) := by
  obtain ⟨hd, rest, chs, rest2, out, c16, rest3, g1, _, g8, _, _, _, _, _, rfl⟩ := decodeFrame_ok_iff.mp h
  exact ⟨f.length - rest.length / 8, by simp only [parseHeaderBytes, g1, g8]⟩

theorem decodeFrame_check {p : Profile} {si : Option SInfo} {bytes : List Nat} {d : Decoded}
    (h : decodeFrame p si bytes = .ok d) : checkStreaminfo si d.hdr = .ok () := by
  obtain ⟨hd, rest, chs, rest2, out, c16, rest3, _, g2, _, _, _, _, _, _, rfl⟩ := decodeFrame_ok_iff.mp h
  exact g2

theorem parseHeaderBytes_nil (si : Option SInfo) : parseHeaderBytes si [] = .error .eof := by
  simp [parseHeaderBytes, readHeaderFields, bytesToBits, bind, P.bind, readU, takeBits, splitExact]

theorem decodeFrame_bytes_pos {p : Profile} {si : Option SInfo} {f : List Nat} {d : Decoded}
    (h : decodeFrame p si f = .ok d) : 1 ≤ f.length := by
  cases f with
  | nil =>
    obtain ⟨n, hn⟩ := decodeFrame_header h
    rw [parseHeaderBytes_nil] at hn
    cases hn
  | cons _ _ => exact Nat.le_add_left ..

end Flac
