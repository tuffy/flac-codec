/-
  Proofs/Bits.lean — the bit-level primitives of Model/Basic.lean, each characterised once.
  `natToBits n` and `bitsToNat` are mutually inverse between numbers below `2 ^ n` and `n` bits, `intToBits n`
  and `bitsToInt` between the signed `n`-bit range and `n` bits; a primitive reader succeeds exactly on what
  its writer produces (`readU_ok_iff`, `readS_ok_iff`, `readUnary1_ok_iff`, …) and otherwise fails with `eof`.
  Round trip, soundness, locality and panic-freedom of the frame readers all start from these.  Then bits and bytes
  (`bitsToBytes` on at least / fewer than eight bits, `bitsToBytes_append`, `bytesToBits_bitsToBytes`, `bytesToBits_take`), and
  the lengths of the header writers (`writeSubHeader_length`, `writeNumber_length_le`, `writeHeaderFields_length`), which the bit
  counts of C19 need below the codec.
-/
import FlacModel.Model.Frame
import FlacModel.Proofs.Machine

namespace Flac

theorem natToBitsAux_acc (n v : Nat) (acc : Bits) : natToBitsAux n v acc = natToBitsAux n v [] ++ acc := by
  induction n generalizing v acc with
  | zero => rfl
  | succ n ih =>
    simp only [natToBitsAux]
    rw [ih (v / 2) ((v % 2 == 1) :: acc), ih (v / 2) [v % 2 == 1], List.append_assoc]; rfl

theorem natToBits_succ (n v : Nat) : natToBits (n + 1) v = natToBits n (v / 2) ++ [v % 2 == 1] :=
  natToBitsAux_acc n (v / 2) _

@[simp] theorem natToBits_length (n v : Nat) : (natToBits n v).length = n := by
  induction n generalizing v with
  | zero => rfl
  | succ n ih => rw [natToBits_succ, List.length_append, ih]; rfl

@[simp] theorem intToBits_length (n : Nat) (v : Int) : (intToBits n v).length = n := natToBits_length ..

theorem natToBits_msb (m u : Nat) : natToBits (m + 1) u = (u / 2 ^ m % 2 == 1) :: natToBits m u := by
  induction m generalizing u with
  | zero => simp [natToBits, natToBitsAux]
  | succ m ih =>
    rw [natToBits_succ (m + 1) u, ih (u / 2), natToBits_succ m u, Nat.div_div_eq_div_mul, Nat.pow_succ, Nat.mul_comm 2 (2 ^ m)]
    rfl

theorem natToBits_add_mul (n u c : Nat) : natToBits n (u + c * 2 ^ n) = natToBits n u := by
  induction n generalizing u c with
  | zero => rfl
  | succ n ih =>
    have e1 : (u + c * 2 ^ (n + 1)) / 2 = u / 2 + c * 2 ^ n := by rw [Nat.pow_succ, ← Nat.mul_assoc]; omega
    have e2 : (u + c * 2 ^ (n + 1)) % 2 = u % 2 := by rw [Nat.pow_succ, ← Nat.mul_assoc]; omega
    rw [natToBits_succ, natToBits_succ, e1, e2, ih]

theorem natToBits_mod (n v : Nat) : natToBits n (v % 2 ^ n) = natToBits n v := by
  conv => rhs; rw [← Nat.mod_add_div v (2 ^ n), Nat.mul_comm]
  exact (natToBits_add_mul ..).symm

theorem natToBits_split (m n v : Nat) : natToBits (m + n) v = natToBits m (v / 2 ^ n) ++ natToBits n v := by
  induction n generalizing v with
  | zero => simp [natToBits, natToBitsAux]
  | succ n ih =>
    rw [← Nat.add_assoc, natToBits_succ, ih, natToBits_succ n, Nat.div_div_eq_div_mul, Nat.pow_succ, Nat.mul_comm 2,
      List.append_assoc]

theorem foldl_bits (y : Bits) (acc : Nat) :
    y.foldl (fun a x => 2 * a + (if x then 1 else 0)) acc = acc * 2 ^ y.length + bitsToNat y := by
  induction y generalizing acc with
  | nil => simp [bitsToNat]
  | cons b y ih =>
    simp only [List.foldl_cons, bitsToNat, List.length_cons]
    rw [ih, ih (2 * 0 + _), Nat.pow_succ, Nat.mul_zero, Nat.zero_add, Nat.add_mul, Nat.add_assoc,
      Nat.mul_comm 2 acc, Nat.mul_assoc, Nat.mul_comm 2]

theorem bitsToNat_append (x y : Bits) : bitsToNat (x ++ y) = bitsToNat x * 2 ^ y.length + bitsToNat y := by
  simp only [bitsToNat, List.foldl_append]
  exact foldl_bits y _

theorem bitsToNat_cons (b : Bool) (y : Bits) : bitsToNat (b :: y) = (if b then 1 else 0) * 2 ^ y.length + bitsToNat y := by
  simpa [bitsToNat] using bitsToNat_append [b] y

theorem bitsToNat_lt' (x : Bits) : bitsToNat x < 2 ^ x.length := by
  induction x with
  | nil => simp [bitsToNat]
  | cons b y ih => rw [bitsToNat_cons, List.length_cons, Nat.pow_succ]; cases b <;> simp <;> omega

theorem bitsToNat_natToBits (n v : Nat) : bitsToNat (natToBits n v) = v % 2 ^ n := by
  induction n generalizing v with
  | zero => simp [natToBits, natToBitsAux, bitsToNat, Nat.mod_one]
  | succ n ih =>
    rw [natToBits_succ, bitsToNat_append, ih, Nat.pow_succ, Nat.mul_comm (2 ^ n) 2, Nat.mod_mul]
    have : v % 2 = 0 ∨ v % 2 = 1 := by omega
    rcases this with h | h <;> simp [bitsToNat, h] <;> omega

theorem natToBits_bitsToNat (t : Bits) : natToBits t.length (bitsToNat t) = t := by
  induction t with
  | nil => rfl
  | cons b y ih =>
    rw [List.length_cons, natToBits_msb, bitsToNat_cons]
    have hlt := bitsToNat_lt' y
    have hk : 0 < 2 ^ y.length := Nat.pow_pos (by decide)
    congr 1
    · cases b
      · simp only [Bool.false_eq_true, if_false, Nat.zero_mul, Nat.zero_add]
        rw [Nat.div_eq_of_lt hlt]; rfl
      · simp only [if_true, Nat.one_mul]
        rw [Nat.add_div_left _ hk, Nat.div_eq_of_lt hlt]; rfl
    · rw [Nat.add_comm, natToBits_add_mul, ih]

theorem two_pow_cast (m : Nat) : (2 : Int) ^ m = ((2 ^ m : Nat) : Int) := (Int.natCast_pow 2 m).symm

theorem two_pow_succ_cast (m : Nat) : (2 : Int) ^ (m + 1) = 2 * ((2 ^ m : Nat) : Int) := by
  rw [Int.pow_succ, Int.mul_comm, two_pow_cast]

/-- the signed reading of `m + 1` bits, from their unsigned reading -/
theorem bitsToInt_of_length (t : Bits) (m : Nat) (h : t.length = m + 1) :
    bitsToInt t = if bitsToNat t < 2 ^ m then (bitsToNat t : Int) else (bitsToNat t : Int) - 2 * (2 ^ m : Nat) := by
  cases t with
  | nil => cases h
  | cons s y =>
    have l : y.length = m := Nat.succ.inj h
    have hlt := bitsToNat_lt' y
    rw [l] at hlt
    rw [bitsToNat_cons, l, bitsToInt, l, two_pow_cast]
    cases s <;> simp <;> omega

/-- two's complement is a bijection between `[-P, P)` and `[0, 2P)`: the code `u` of `v` is its residue, and decodes to `v` … -/
theorem twos_encode (P : Nat) (v : Int) (h1 : -(P : Int) ≤ v) (h2 : v < P) :
    ∃ u : Nat, u < 2 * P ∧ v % (2 * P : Int) = u ∧ (if u < P then (u : Int) else u - 2 * P) = v := by
  refine ⟨(v % (2 * P : Int)).toNat, ?_⟩
  rw [emod_two_mul P v h1 h2]
  split <;> refine ⟨by omega, by omega, ?_⟩ <;> split <;> omega

/-- … and every code `u` decodes to a value in range whose code is `u` -/
theorem twos_decode (P u : Nat) (h : u < 2 * P) :
    ∃ s : Int, s = (if u < P then (u : Int) else u - 2 * P) ∧ (-(P : Int) ≤ s ∧ s < P) ∧ s % (2 * P : Int) = u := by
  refine ⟨_, rfl, ?_⟩
  split
  · exact ⟨by omega, by rw [emod_two_mul P _ (by omega) (by omega), if_neg (by omega)]⟩
  · exact ⟨by omega, by rw [emod_two_mul P _ (by omega) (by omega), if_pos (by omega)]; omega⟩

theorem bitsToInt_intToBits (m : Nat) (v : Int) (h : fitsS (m + 1) v = true) : bitsToInt (intToBits (m + 1) v) = v := by
  rw [fitsS_succ_iff, two_pow_cast] at h
  obtain ⟨u, lt, e, hu⟩ := twos_encode (2 ^ m) v h.1 h.2
  rw [bitsToInt_of_length _ m (intToBits_length ..), intToBits, bitsToNat_natToBits, two_pow_succ_cast, e, Int.toNat_natCast,
    Nat.pow_succ, Nat.mul_comm, Nat.mod_eq_of_lt lt, hu]

theorem intToBits_bitsToInt (t : Bits) (m : Nat) (h : t.length = m + 1) :
    intToBits (m + 1) (bitsToInt t) = t ∧ fitsS (m + 1) (bitsToInt t) = true := by
  have hlt := bitsToNat_lt' t
  rw [h, Nat.pow_succ, Nat.mul_comm] at hlt
  obtain ⟨s, hs, f, e⟩ := twos_decode (2 ^ m) (bitsToNat t) hlt
  have key := natToBits_bitsToNat t
  rw [h] at key
  rw [bitsToInt_of_length t m h, ← hs, fitsS_succ_iff, two_pow_cast, intToBits, two_pow_succ_cast, e, Int.toNat_natCast, key]
  exact ⟨rfl, f⟩

theorem splitExact_append (t r : Bits) : splitExact t.length (t ++ r) = some (t, r) := by
  induction t with
  | nil => rfl
  | cons a t ih => simp [splitExact, ih]

theorem splitExact_iff {n : Nat} {b t r : Bits} : splitExact n b = some (t, r) ↔ b = t ++ r ∧ t.length = n := by
  refine ⟨fun h => ?_, fun ⟨e, l⟩ => by subst e l; exact splitExact_append t r⟩
  induction n generalizing b t with
  | zero => cases h; exact ⟨rfl, rfl⟩
  | succ n ih =>
    cases b with
    | nil => cases h
    | cons x b =>
      simp only [splitExact] at h
      split at h
      · cases h
      · rename_i t' r' hs
        cases h
        obtain ⟨rfl, rfl⟩ := ih hs
        exact ⟨rfl, rfl⟩

theorem splitExact_none_iff {n : Nat} {b : Bits} : splitExact n b = none ↔ b.length < n := by
  induction n generalizing b with
  | zero => simp [splitExact]
  | succ n ih =>
    cases b with
    | nil => simp [splitExact]
    | cons x b => cases h : splitExact n b <;> simp [splitExact, h, ← ih (b := b)]

theorem takeBits_ok_iff {n : Nat} {b t r : Bits} : takeBits n b = .ok (t, r) ↔ b = t ++ r ∧ t.length = n := by
  rw [← splitExact_iff]; unfold takeBits; split <;> simp [*]

/-- the only way a primitive fixed-width read fails: too few bits are left -/
theorem takeBits_error_iff {n : Nat} {b : Bits} {e : Fail} : takeBits n b = .error e ↔ e = .eof ∧ b.length < n := by
  rw [← splitExact_none_iff]; unfold takeBits; split <;> simp [*, eq_comm]

theorem readU_ok_iff {n : Nat} {b : Bits} {v : Nat} {r : Bits} :
    readU n b = .ok (v, r) ↔ v < 2 ^ n ∧ b = natToBits n v ++ r := by
  unfold readU
  constructor
  · intro h
    split at h
    · rename_i t r' ht
      obtain ⟨rfl, l⟩ := takeBits_ok_iff.mp ht
      cases h
      have hlt := bitsToNat_lt' t
      have hinv := natToBits_bitsToNat t
      rw [l] at hlt hinv
      exact ⟨hlt, by rw [hinv]⟩
    · cases h
  · rintro ⟨hv, rfl⟩
    simp only [(takeBits_ok_iff (t := natToBits n v) (r := r)).mpr ⟨rfl, natToBits_length ..⟩, bitsToNat_natToBits, Nat.mod_eq_of_lt hv]

theorem readS_ok_iff {n : Nat} (hn : 0 < n) {b : Bits} {v : Int} {r : Bits} :
    readS n b = .ok (v, r) ↔ fitsS n v = true ∧ b = intToBits n v ++ r := by
  obtain ⟨m, rfl⟩ := Nat.exists_eq_succ_of_ne_zero (Nat.ne_of_gt hn)
  unfold readS
  constructor
  · intro h
    split at h
    · rename_i t r' ht
      obtain ⟨rfl, l⟩ := takeBits_ok_iff.mp ht
      cases h
      obtain ⟨e, f⟩ := intToBits_bitsToInt t m l
      exact ⟨f, by rw [e]⟩
    · cases h
  · rintro ⟨hv, rfl⟩
    simp only [(takeBits_ok_iff (t := intToBits (m + 1) v) (r := r)).mpr ⟨rfl, intToBits_length ..⟩, bitsToInt_intToBits m v hv]

theorem readBit_ok_iff {b : Bits} {x : Bool} {r : Bits} : readBit b = .ok (x, r) ↔ b = x :: r := by
  cases b <;> simp [readBit]

theorem readBit_error (b : Bits) (e : Fail) (h : readBit b = .error e) : e = .eof := by
  cases b <;> cases h; rfl

theorem readUnary1_ok_iff {b : Bits} {n : Nat} {r : Bits} : readUnary1 b = .ok (n, r) ↔ b = writeUnary1 n ++ r := by
  constructor
  · intro h
    induction b generalizing n with
    | nil => cases h
    | cons x b ih =>
      cases x with
      | true => cases h; rfl
      | false =>
        simp only [readUnary1] at h
        split at h
        · rename_i m r' hm
          cases h
          rw [ih hm]; rfl
        · cases h
  · rintro rfl
    induction n with
    | zero => rfl
    | succ n ih => simp only [writeUnary1, List.replicate_succ, List.cons_append, readUnary1] at ih ⊢; rw [ih]

theorem readUnary0_ok_iff {b : Bits} {n : Nat} {r : Bits} : readUnary0 b = .ok (n, r) ↔ b = writeUnary0 n ++ r := by
  constructor
  · intro h
    induction b generalizing n with
    | nil => cases h
    | cons x b ih =>
      cases x with
      | false => cases h; rfl
      | true =>
        simp only [readUnary0] at h
        split at h
        · rename_i m r' hm
          cases h
          rw [ih hm]; rfl
        · cases h
  · rintro rfl
    induction n with
    | zero => rfl
    | succ n ih => simp only [writeUnary0, List.replicate_succ, List.cons_append, readUnary0] at ih ⊢; rw [ih]

theorem readUnary1_error (b : Bits) (e : Fail) (h : readUnary1 b = .error e) : e = .eof := by
  induction b with
  | nil => cases h; rfl
  | cons x b ih =>
    cases x with
    | true => cases h
    | false =>
      simp only [readUnary1] at h
      split at h
      · cases h
      · rename_i e' he; cases h; exact ih he

theorem readUnary0_error (b : Bits) (e : Fail) (h : readUnary0 b = .error e) : e = .eof := by
  induction b with
  | nil => cases h; rfl
  | cons x b ih =>
    cases x with
    | false => cases h
    | true =>
      simp only [readUnary0] at h
      split at h
      · cases h
      · rename_i e' he; cases h; exact ih he

/-! the same, as equations to rewrite with -/

theorem readU_natToBits_lt (n : Nat) {v : Nat} {r : Bits} (h : v < 2 ^ n) : readU n (natToBits n v ++ r) = .ok (v, r) :=
  readU_ok_iff.mpr ⟨h, rfl⟩

theorem readBit_cons (b : Bool) (r : Bits) : readBit (b :: r) = .ok (b, r) := rfl

theorem bytesToBits_cons (v : Nat) (l : List Nat) : bytesToBits (v :: l) = natToBits 8 v ++ bytesToBits l := rfl

theorem bytesToBits_append (a b : List Nat) : bytesToBits (a ++ b) = bytesToBits a ++ bytesToBits b := by
  simp [bytesToBits, List.flatMap_append]

theorem bytesToBits_length (a : List Nat) : (bytesToBits a).length = 8 * a.length := by
  induction a with
  | nil => rfl
  | cons x r ih =>
    rw [bytesToBits_cons, List.length_append, natToBits_length, ih, List.length_cons]
    omega

theorem bitsToBytes_of_le (x : Bits) (h : 8 ≤ x.length) : bitsToBytes x = bitsToNat (x.take 8) :: bitsToBytes (x.drop 8) :=
  match x, h with
  | _ :: _ :: _ :: _ :: _ :: _ :: _ :: _ :: _, _ => by rw [bitsToBytes]; rfl

theorem bitsToBytes_of_lt (x : Bits) (h0 : x ≠ []) (h : x.length < 8) :
    bitsToBytes x = [bitsToNat (x ++ List.replicate (8 - x.length) false)] :=
  match x, h0, h with
  | [_], _, _ | [_, _], _, _ | [_, _, _], _, _ | [_, _, _, _], _, _ | [_, _, _, _, _], _, _ | [_, _, _, _, _, _], _, _
  | [_, _, _, _, _, _, _], _, _ => rfl

theorem bitsToBytes_append (x y : Bits) (h : x.length % 8 = 0) : bitsToBytes (x ++ y) = bitsToBytes x ++ bitsToBytes y := by
  induction hn : x.length using Nat.strongRecOn generalizing x with
  | _ n ih =>
    cases x with
    | nil => rfl
    | cons a t =>
      have h8 : 8 ≤ (a :: t).length := by simp only [List.length_cons] at h ⊢; omega
      rw [bitsToBytes_of_le _ h8, bitsToBytes_of_le (a :: t ++ y) (by rw [List.length_append]; omega),
        List.take_append_of_le_length h8, List.drop_append_of_le_length h8,
        ih _ (by rw [← hn, List.length_drop]; omega) _ (by rw [List.length_drop]; omega) rfl]
      rfl

theorem bitsToBytes_byte (c : Nat) (h : c < 256) (rest : Bits) : bitsToBytes (natToBits 8 c ++ rest) = c :: bitsToBytes rest := by
  have l := natToBits_length 8 c
  rw [bitsToBytes_of_le _ (by rw [List.length_append]; omega), List.take_left' l, List.drop_left' l, bitsToNat_natToBits,
    Nat.mod_eq_of_lt h]

theorem bitsToBytes_bytesToBits (bs : List Nat) (h : ∀ x ∈ bs, x < 256) : bitsToBytes (bytesToBits bs) = bs := by
  induction bs with
  | nil => rfl
  | cons x bs ih =>
    rw [bytesToBits_cons, bitsToBytes_byte x (h x (by simp)),
      ih fun y hy => h y (by simp [hy])]

theorem bitsToBytes_u8 (c : Nat) (h : c < 256) : bitsToBytes (natToBits 8 c) = [c] := by
  rw [← List.append_nil (natToBits 8 c), bitsToBytes_byte c h []]; rfl

theorem bitsToBytes_u16 (c : Nat) (h : c < 65536) : bitsToBytes (natToBits 16 c) = [c / 256, c % 256] := by
  rw [natToBits_split 8 8 c, ← natToBits_mod 8 c, ← List.append_nil (natToBits 8 (c % 2 ^ 8)), bitsToBytes_byte _ (by omega),
    bitsToBytes_byte _ (by omega)]
  rfl

theorem bytesToBits_bitsToBytes (x : Bits) (h : x.length % 8 = 0) : bytesToBits (bitsToBytes x) = x := by
  induction hn : x.length using Nat.strongRecOn generalizing x with
  | _ n ih =>
    cases x with
    | nil => rfl
    | cons a t =>
      have h8 : 8 ≤ (a :: t).length := by simp only [List.length_cons] at h ⊢; omega
      have l : ((a :: t).take 8).length = 8 := by rw [List.length_take]; omega
      have := natToBits_bitsToNat ((a :: t).take 8)
      rw [l] at this
      rw [bitsToBytes_of_le _ h8, bytesToBits_cons, this,
        ih _ (by rw [← hn, List.length_drop]; omega) _ (by rw [List.length_drop]; omega) rfl, List.take_append_drop]

theorem bitsToBytes_length (x : Bits) (h : x.length % 8 = 0) : 8 * (bitsToBytes x).length = x.length := by
  have := congrArg List.length (bytesToBits_bitsToBytes x h)
  rwa [bytesToBits_length] at this

theorem bitsToBytes_lt (x : Bits) : ∀ b ∈ bitsToBytes x, b < 256 := by
  have byte (y : Bits) (l : y.length = 8) : bitsToNat y < 256 := by have := bitsToNat_lt' y; rwa [l] at this
  induction hn : x.length using Nat.strongRecOn generalizing x with
  | _ n ih =>
    intro b hb
    by_cases h8 : 8 ≤ x.length
    · rw [bitsToBytes_of_le x h8, List.mem_cons] at hb
      rcases hb with rfl | hb
      · exact byte _ (by rw [List.length_take]; omega)
      · exact ih _ (by rw [← hn, List.length_drop]; omega) _ rfl b hb
    · by_cases h0 : x = []
      · subst h0; cases hb
      · rw [bitsToBytes_of_lt x h0 (by omega), List.mem_singleton] at hb
        rw [hb]; exact byte _ (by rw [List.length_append, List.length_replicate]; omega)

theorem bytesToBits_take (bytes : List Nat) (x y : Bits) (k : Nat) (h : bytesToBits bytes = x ++ y) (hx : x.length = 8 * k) :
    bytesToBits (bytes.take k) = x ∧ bytesToBits (bytes.drop k) = y := by
  have hk : k ≤ bytes.length := by
    have := congrArg List.length h
    rw [bytesToBits_length, List.length_append] at this; omega
  have hsplit : bytesToBits bytes = bytesToBits (bytes.take k) ++ bytesToBits (bytes.drop k) := by
    rw [← bytesToBits_append, List.take_append_drop]
  rw [hsplit] at h
  have hl : (bytesToBits (bytes.take k)).length = x.length := by
    rw [bytesToBits_length, List.length_take, hx]; omega
  exact List.append_inj h hl

/-! lengths of the coded number and the header (here, below the codec, because the bit counts of Props/C19.lean need nothing more) -/

theorem numberTail_length (n v : Nat) : (numberTail n v).length = 8 * n := by
  induction n with
  | zero => simp [numberTail]
  | succ n ih => simp [numberTail, ih]; omega

theorem writeNumber_length_le (v n : Nat) (hn : n ≤ 7) : (writeNumber v n).length ≤ 56 := by
  unfold writeNumber
  split
  · simp
  · simp [writeUnary0, numberTail_length]; omega

theorem writeSubHeader_length (ty w : Nat) : (writeSubHeader ty w).length = 8 + w := by
  simp only [writeSubHeader, List.length_append, apply_ite List.length, natToBits_length, List.length_cons, List.length_nil,
    writeUnary1, List.length_replicate, beq_iff_eq]
  split <;> omega

open Flac.Gen in
/-- a frame header is 32 fixed bits, the coded number, and two optional fields (block size, sample rate) of 0, 8 or 16 bits -/
theorem writeHeaderFields_length (h : Header) : ∃ a b, (a = 0 ∨ a = 8 ∨ a = 16) ∧ (b = 0 ∨ b = 8 ∨ b = 16) ∧
    (writeHeaderFields h).length = 32 + (writeNumber h.number h.numberBytes).length + a + b := by
  refine ⟨if blockSizeCodeU8.contains h.bsCode then 8 else if blockSizeCodeU16.contains h.bsCode then 16 else 0,
    if sampleRateCodeKHz.contains h.rateCode then 8 else if sampleRateCodeHz.contains h.rateCode then 16
      else if sampleRateCodeDHz.contains h.rateCode then 16 else 0, ?_, ?_, ?_⟩
  · repeat' split
    all_goals simp
  · repeat' split
    all_goals simp
  · simp only [writeHeaderFields, List.length_append, apply_ite List.length, natToBits_length, List.length_cons, List.length_nil,
      show sampleRateKHzBits = 8 from rfl, show sampleRateHzBits = 16 from rfl, show sampleRateDHzBits = 16 from rfl]

end Flac
