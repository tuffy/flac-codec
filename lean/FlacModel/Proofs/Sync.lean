/-
  Proofs/Sync.lean — what C16 uses of the sync code: whatever `decodeFrame` accepts starts with the bytes `FF F8|F9`.
-/
import FlacModel.Proofs.FrameInv

namespace Flac

theorem sync_shape (f : List Nat) (hf : ∀ x ∈ f, x < 256) (r : Bits)
    (h : readU 15 (bytesToBits f) = .ok (32764, r)) :
    ∃ b t, f = 255 :: b :: t ∧ b / 2 = 124 := by
  have hbits := (readU_ok_iff.mp h).2
  have hl := congrArg List.length hbits
  rw [bytesToBits_length, List.length_append, natToBits_length] at hl
  match f, hf with
  | [], _ | [a], _ => simp only [List.length_cons, List.length_nil] at hl; omega
  | a :: b :: t, hf =>
    have ha : a < 256 := hf a (by simp)
    have hb : b < 256 := hf b (by simp)
    -- the first fifteen bits are byte `a` and the upper seven bits of byte `b`
    have e : bytesToBits (a :: b :: t) = (natToBits 8 a ++ natToBits 7 (b / 2)) ++ ((b % 2 == 1) :: bytesToBits t) := by
      rw [bytesToBits_cons, bytesToBits_cons, natToBits_succ 7 b,
        List.append_assoc, List.append_assoc]; rfl
    have h' := congrArg bitsToNat (List.append_inj (e ▸ hbits) (by rw [List.length_append, natToBits_length, natToBits_length, natToBits_length])).1
    rw [bitsToNat_append, bitsToNat_natToBits, bitsToNat_natToBits, bitsToNat_natToBits, natToBits_length] at h'
    exact ⟨b, t, by congr 1; omega, by omega⟩

theorem readHeaderFields_sync (si : Option SInfo) (bits : Bits) (v : Header × Bits)
    (h : readHeaderFields si bits = .ok v) : ∃ r, readU 15 bits = .ok (32764, r) := by
  unfold readHeaderFields at h
  obtain ⟨s, r, hr, h⟩ := bind_ok_iff.mp h
  obtain ⟨hs, _⟩ := ite_fail_ok_iff.mp h
  have : s = 32764 := by simpa [Gen.syncCode15] using hs
  exact ⟨r, this ▸ hr⟩

theorem decodeFrame_sync (p : Profile) (si : Option SInfo) (f : List Nat) (hf : ∀ x ∈ f, x < 256) (d : Decoded)
    (h : decodeFrame p si f = .ok d) : ∃ b t, f = 255 :: b :: t ∧ b / 2 = 124 := by
  obtain ⟨_, _, _, _, _, _, _, h1, _⟩ := decodeFrame_ok_iff.mp h
  obtain ⟨r, hr⟩ := readHeaderFields_sync si _ _ h1
  exact sync_shape f hf r hr

end Flac
