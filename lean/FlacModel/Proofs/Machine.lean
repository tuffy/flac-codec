/-
  Proofs/Machine.lean — the machine-integer operations of Model/Machine.lean: `fitsS` / `wrapS` at any width, results that fit are
  returned exactly; and the residue and bit arithmetic behind them and behind the byte front end of C08 (`emod_two_mul`,
  `emod_mul`, `lor_two_pow`, `and_two_pow`).
-/
import FlacModel.Model.Machine

namespace Flac

theorem fitsS_iff (w : Nat) (x : Int) : fitsS w x = true ↔ -(2 : Int) ^ (w - 1) ≤ x ∧ x < 2 ^ (w - 1) := by
  simp [fitsS]

theorem fitsS_succ_iff (m : Nat) (x : Int) : fitsS (m + 1) x = true ↔ -(2 : Int) ^ m ≤ x ∧ x < 2 ^ m :=
  fitsS_iff (m + 1) x

theorem fits_mono {n m : Nat} (h : n ≤ m) {x : Int} (hx : fitsS n x = true) : fitsS m x = true := by
  rw [fitsS_iff] at hx ⊢
  have hp : (2 : Int) ^ (n - 1) ≤ 2 ^ (m - 1) :=
    Int.ofNat_le.mpr (Nat.pow_le_pow_right (by decide) (Nat.sub_le_sub_right h 1))
  omega

/-- `|y| ≤ |y·2^w|` -/
theorem fits_of_scaled {n w : Nat} {y : Int} (h : fitsS n (y * 2 ^ w) = true) : fitsS n y = true := by
  rw [fitsS_iff] at h ⊢
  have hK : (1 : Int) ≤ 2 ^ w := Int.pow_pos (by decide)
  rcases Int.le_total 0 y with hy | hy
  · have := Int.mul_le_mul_of_nonneg_left hK hy; omega
  · have := Int.mul_le_mul_of_nonpos_left hy hK; omega

theorem natAbs_le_of_fitsS (m : Nat) {x : Int} (h : fitsS (m + 1) x = true) : x.natAbs ≤ 2 ^ m := by
  have := (fitsS_succ_iff m x).mp h
  have e : ((2 ^ m : Nat) : Int) = 2 ^ m := Int.natCast_pow 2 m
  omega

/-! the ranges with their numerals, as `omega` wants them -/

theorem fitsS32_iff (x : Int) : fitsS 32 x = true ↔ (-2147483648 ≤ x ∧ x < 2147483648) := by
  simp [fitsS]

theorem fitsS31_iff (x : Int) : fitsS 31 x = true ↔ (-1073741824 ≤ x ∧ x < 1073741824) := by
  simp [fitsS]

theorem fitsS64_iff (x : Int) : fitsS 64 x = true ↔ (-9223372036854775808 ≤ x ∧ x < 9223372036854775808) := by
  simp [fitsS]

theorem fitsU32_iff (x : Int) : fitsU 32 x = true ↔ (0 ≤ x ∧ x < 4294967296) := by
  simp [fitsU]

theorem fits32_of_fits31 (l r : Int) (hl : fitsS 31 l = true) (hr : fitsS 31 r = true) :
    fitsS 32 (l + r) = true ∧ fitsS 32 (l - r) = true ∧ -2147483648 < l - r := by
  rw [fitsS31_iff] at hl hr; rw [fitsS32_iff, fitsS32_iff]; omega

/-! ### two's-complement wrap at any width: `wrapS w x` is the residue of `x` modulo `2^w` that lies in the signed range -/

theorem wrapS_congr {w : Nat} {x y : Int} (h : x % 2 ^ w = y % 2 ^ w) : wrapS w x = wrapS w y := by
  simp only [wrapS, h]

theorem wrapS_emod (w : Nat) (x : Int) : wrapS w x % 2 ^ w = x % 2 ^ w := by
  unfold wrapS; split
  · exact Int.emod_emod_of_dvd _ (Int.dvd_refl _)
  · rw [Int.sub_emod_right, Int.emod_emod_of_dvd _ (Int.dvd_refl _)]

theorem wrapS_add_wrap (w : Nat) (r t : Int) : wrapS w (r + wrapS w t) = wrapS w (r + t) :=
  wrapS_congr (by rw [← Int.add_emod_emod, wrapS_emod, Int.add_emod_emod])

theorem wrapS_wrap_add (w : Nat) (t r : Int) : wrapS w (wrapS w t + r) = wrapS w (t + r) :=
  wrapS_congr (by rw [← Int.emod_add_emod, wrapS_emod, Int.emod_add_emod])

theorem wrapS_wrap_sub (w : Nat) (t r : Int) : wrapS w (wrapS w t - r) = wrapS w (t - r) :=
  wrapS_congr (by rw [← Int.emod_sub_emod, wrapS_emod, Int.emod_sub_emod])

theorem wrapS_fits (m : Nat) (x : Int) : fitsS (m + 1) (wrapS (m + 1) x) = true := by
  have hK : (0 : Int) < 2 ^ m := Int.pow_pos (by decide)
  rw [fitsS_succ_iff]
  unfold wrapS
  rw [Int.pow_succ, Int.mul_ediv_cancel _ (by decide)]
  generalize (2 : Int) ^ m = K at *
  have hM : 0 < K * 2 := by omega
  have h0 := Int.emod_nonneg x (Int.ne_of_gt hM)
  have h1 := Int.emod_lt_of_pos x hM
  generalize x % (K * 2) = y at *
  split <;> omega

theorem emod_two_mul (P x : Int) (h1 : -P ≤ x) (h2 : x < P) : x % (2 * P) = if x < 0 then x + 2 * P else x := by
  split
  · rw [← Int.add_mul_emod_self_right x 1 (2 * P), Int.one_mul, Int.emod_eq_of_lt (by omega) (by omega)]
  · exact Int.emod_eq_of_lt (by omega) (by omega)

theorem pow256_eq_two_mul (n : Nat) (hn : 1 ≤ n) : (256 : Int) ^ n = 2 * 2 ^ (8 * n - 1) := by
  rw [show (256 : Int) = 2 ^ 8 from rfl, ← Int.pow_mul, ← Int.pow_succ', show 8 * n - 1 + 1 = 8 * n by omega]

theorem wrapS_of_fits (m : Nat) {x : Int} (h : fitsS (m + 1) x = true) : wrapS (m + 1) x = x := by
  obtain ⟨h1, h2⟩ := (fitsS_succ_iff m x).mp h
  unfold wrapS
  rw [Int.pow_succ, Int.mul_ediv_cancel _ (by decide), Int.mul_comm, emod_two_mul _ x h1 h2]
  generalize (2 : Int) ^ m = K at *
  by_cases hx : x < 0
  · rw [if_pos hx, if_neg (by omega)]; omega
  · rw [if_neg hx, if_pos h2]

theorem wrapS32_of_fits {x : Int} (h : fitsS 32 x = true) : wrapS 32 x = x := wrapS_of_fits 31 h

theorem wrapS64_of_fits {x : Int} (h : fitsS 64 x = true) : wrapS 64 x = x := wrapS_of_fits 63 h

theorem wrapU_of_fits (w : Nat) {x : Int} (h : fitsU w x = true) : wrapU w x = x := by
  simp only [fitsU, Bool.and_eq_true, decide_eq_true_eq] at h
  exact Int.emod_eq_of_lt h.1 h.2

theorem resS_of_fits (p : Profile) (w : Nat) {s : String} {v : Int} (h : fitsS w v = true) : resS p w s v = .ok v := by
  simp [resS, h]

theorem resU_of_fits (p : Profile) (w : Nat) {s : String} {v : Int} (h : fitsU w v = true) : resU p w s v = .ok v := by
  simp [resU, h]

theorem addU_ok (p : Profile) (w : Nat) (site : String) {a b : Nat} (h : a + b < 2 ^ w) : addU p w site a b = .ok ((a : Int) + b) :=
  resU_of_fits p w (by have := Int.ofNat_lt.mpr h; push_cast at this; simp [fitsU]; omega)

theorem subU_ok (p : Profile) (w : Nat) (site : String) {a b : Nat} (hb : b ≤ a) (h : a < 2 ^ w) : subU p w site a b = .ok ((a : Int) - b) :=
  resU_of_fits p w (by have := Int.ofNat_lt.mpr h; push_cast at this; simp [fitsU]; omega)

theorem checkedSubS_eq_some (w : Nat) (a b r : Int) :
    checkedSubS w a b = some r ↔ fitsS w (a - b) = true ∧ a - b = r := by
  unfold checkedSubS; split <;> simp [*]

theorem shiftGuard (k w : Nat) (h : k < w) :
    (decide ((0 : Int) ≤ (k : Int)) && decide ((k : Int) < ((w : Nat) : Int))) = true := by
  simp; omega

theorem shrX_ok (p : Profile) (w : Nat) {s : String} {a : Int} (k : Nat) (h : k < w) :
    shrX p w s a k = .ok (a / 2 ^ k) := by
  simp only [shrX, shiftGuard k w h, if_true, Int.toNat_natCast]

theorem shlS_ok (p : Profile) (w : Nat) {s : String} {a : Int} (k : Nat) (h : k < w) :
    shlS p w s a k = .ok (wrapS w (a * 2 ^ k)) := by
  simp only [shlS, shiftGuard k w h, if_true, Int.toNat_natCast]

theorem shlU_ok (p : Profile) (w : Nat) {s : String} {a : Int} (k : Nat) (h : k < w) :
    shlU p w s a k = .ok (wrapU w (a * 2 ^ k)) := by
  simp only [shlU, shiftGuard k w h, if_true, Int.toNat_natCast]

/-- peeling the lowest base-`b` digit off a residue -/
theorem emod_mul (u : Int) {b : Int} (hb : 0 ≤ b) (P : Int) : u % (b * P) = u % b + b * (u / b % P) := by
  rw [Int.emod_def, Int.emod_def u b, Int.emod_def (u / b), ← Int.ediv_ediv_of_nonneg hb, Int.mul_sub, Int.mul_assoc]
  omega

theorem lor_two_pow {k y : Nat} (h : y < 2 ^ k) : Nat.lor (2 ^ k) y = 2 ^ k + y :=
  (Nat.or_comm ..).trans ((Nat.or_two_pow_eq_add_of_lt h).trans (Nat.add_comm ..))

theorem and_two_pow (u k : Nat) : u &&& 2 ^ k = (u / 2 ^ k % 2) * 2 ^ k := by
  rw [← Nat.toNat_testBit]
  apply Nat.eq_of_testBit_eq
  intro i
  rw [Nat.testBit_and, Nat.testBit_two_pow, Nat.testBit_mul_two_pow, Nat.testBit_bool_toNat]
  by_cases h : k = i
  · subst h; simp
  · simp [h]; omega

@[simp] theorem Except_bind_ok {ε α β : Type} (a : α) (f : α → Except ε β) : (Except.ok a >>= f) = f a := rfl

end Flac
