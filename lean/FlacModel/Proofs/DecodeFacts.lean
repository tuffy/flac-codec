/-
  Proofs/DecodeFacts.lean — what the decoder's kernels and list combinators compute, shared by the round trip (C01), the
  refinement of the RFC (C03) and the frame codec: the combinators on functions that succeed on every element, the Rice
  fold as a bijection, the prediction sum within `i64` and one step of `predict`, wasted bits, the stereo kernels.  Each
  kernel returns its exact formula whenever the result fits.  (Kept apart from the encoder-side files so that properties
  about the decoder alone do not import the encoder kernels.)
-/
import FlacModel.Model.Decode
import FlacModel.Proofs.Machine
import FlacModel.Proofs.Res

namespace Flac
open Gen

/-! ### the list combinators of the decoder, on functions that succeed on every element they meet -/

theorem mapM'_ok (f : Int → Res Int) (g : Int → Int) (ys : List Int) (h : ∀ y ∈ ys, f y = .ok (g y)) :
    mapM' f ys = .ok (ys.map g) := by
  induction ys with
  | nil => rfl
  | cons y ys ih =>
    simp only [mapM', h y (List.mem_cons_self ..), ih (fun z hz => h z (List.mem_cons_of_mem _ hz)), List.map_cons]

theorem mapM'_length (f : Int → Res Int) (xs ys : List Int) (h : mapM' f xs = .ok ys) : ys.length = xs.length := by
  fun_induction mapM' f xs generalizing ys
  · cases h; rfl
  · cases h
  · cases h
  · rename_i ih; cases h; rw [List.length_cons, List.length_cons, ih _ ‹_›]

theorem zipWithM_ok {α : Type} (f : Int → Int → Res α) (g : Int → Int → α) (l r : List Int)
    (h : ∀ ab ∈ List.zip l r, f ab.1 ab.2 = .ok (g ab.1 ab.2)) : zipWithM f l r = .ok (List.zipWith g l r) := by
  induction l generalizing r with
  | nil => rfl
  | cons a l ih =>
    cases r with
    | nil => rfl
    | cons b r =>
      simp only [zipWithM, List.zipWith_cons_cons, h (a, b) (by simp), ih r fun ab hab => h ab (by simp [hab])]

/-- both argument lists given as images of one list of pairs (`ps = l.zip r` in the stereo modes) -/
theorem zipWithM_map {α : Type} (f : Int → Int → Res α) (u v : Int × Int → Int) (g : Int × Int → α) (ps : List (Int × Int))
    (h : ∀ q ∈ ps, f (u q) (v q) = .ok (g q)) : zipWithM f (ps.map u) (ps.map v) = .ok (ps.map g) := by
  induction ps with
  | nil => rfl
  | cons q ps ih =>
    simp only [List.map_cons, zipWithM, h q (List.mem_cons_self ..), ih (fun q' hq' => h q' (List.mem_cons_of_mem _ hq'))]

/-! ### Rice folding: `unfoldRice` (the decoder's `(msb << k) | lsb`, then zig-zag) inverts `foldRice` -/

/-- the join `(msb << k) | lsb` in `u32` is exact when `msb·2^k + lsb` fits 32 bits; then comes the zig-zag: odd codes are the
    negative residuals -/
theorem unfoldRice_of_lt (k msb lsb : Nat) (h : msb * 2 ^ k + lsb < 4294967296) :
    unfoldRice k msb lsb = if (msb * 2 ^ k + lsb) % 2 == 1 then -(((msb * 2 ^ k + lsb) / 2 : Nat) : Int) - 1
      else (((msb * 2 ^ k + lsb) / 2 : Nat) : Int) := by
  have hm : msb ≤ msb * 2 ^ k := Nat.le_mul_of_pos_right _ (Nat.two_pow_pos k)
  rw [unfoldRice, Nat.mod_eq_of_lt (by omega : msb < 4294967296), Nat.mod_eq_of_lt (by omega : msb * 2 ^ k < 4294967296)]

theorem foldRice_cast (r : Int) : ((foldRice r : Nat) : Int) = if r < 0 then (-r - 1) * 2 + 1 else r * 2 := by
  unfold foldRice; split <;> omega

theorem foldRice_lt (r : Int) (h0 : -2147483648 ≤ r) (h1 : r < 2147483648) : foldRice r < 4294967296 := by
  unfold foldRice; split <;> omega

/-- holds for every residual whose folded value fits `u32`, the most negative 32-bit value included, and every Rice parameter -/
theorem unfoldRice_foldRice (k : Nat) (r : Int) (h : foldRice r < 4294967296) :
    unfoldRice k (foldRice r / 2 ^ k) (foldRice r % 2 ^ k) = r := by
  have hv := foldRice_cast r
  rw [unfoldRice_of_lt _ _ _ (by rw [Nat.div_add_mod']; exact h), Nat.div_add_mod']
  generalize foldRice r = n at hv
  split at hv
  · rw [if_pos (by simp only [beq_iff_eq]; omega)]; omega
  · rw [if_neg (by simp only [beq_iff_eq]; omega)]; omega

/-- the other way round: every quotient / remainder pair whose join fits `u32` is the code of the residual it decodes to,
    and that residual fits 32 bits -/
theorem foldRice_unfoldRice (k msb lsb : Nat) (h : msb * 2 ^ k + lsb < 4294967296) :
    foldRice (unfoldRice k msb lsb) = msb * 2 ^ k + lsb ∧
      -2147483648 ≤ unfoldRice k msb lsb ∧ unfoldRice k msb lsb < 2147483648 := by
  rw [unfoldRice_of_lt k msb lsb h]
  generalize msb * 2 ^ k + lsb = u at h
  unfold foldRice
  split
  · rw [if_pos (by omega)]; rename_i hodd; have := beq_iff_eq.mp hodd; omega
  · rw [if_neg (by omega)]; rename_i hodd; have : u % 2 ≠ 1 := fun e => hodd (beq_iff_eq.mpr e); omega

/-- the reader's overflow guard `msb > (2 ^ w - 1) / 2 ^ k` refuses exactly the joins that do not fit `w` bits -/
theorem rice_limit (w k msb lsb : Nat) (hk : k ≤ w) (hl : lsb < 2 ^ k) (ho : ¬ msb > (2 ^ w - 1) / 2 ^ k) :
    msb * 2 ^ k + lsb < 2 ^ w := by
  have hp : 0 < 2 ^ k := Nat.pow_pos (by decide)
  have e : 2 ^ w = 2 ^ (w - k) * 2 ^ k := by rw [← Nat.pow_add, Nat.sub_add_cancel hk]
  -- compare the quotients by `2 ^ k`: `msb` on the left, `2 ^ (w - k)` on the right
  have hq : (2 ^ w - 1) / 2 ^ k < 2 ^ (w - k) :=
    (Nat.div_lt_iff_lt_mul hp).mpr (by rw [← e]; exact Nat.sub_lt (Nat.two_pow_pos w) Nat.one_pos)
  rw [e, ← Nat.div_lt_iff_lt_mul hp, Nat.add_comm, Nat.add_mul_div_right _ _ hp, Nat.div_eq_of_lt hl]
  omega

/-! ### prediction: the sum Σ xᵢ·cᵢ of 32-bit samples and ≤ 16-bit coefficients over at most 32 taps never leaves the
i64 range, so the i64 accumulation (wrapping or not) is exact -/

theorem natAbs_dot_le (xs cs : List Int) (A B : Nat) (hx : ∀ x ∈ xs, x.natAbs ≤ A) (hc : ∀ c ∈ cs, c.natAbs ≤ B) :
    (dot xs cs).natAbs ≤ cs.length * (A * B) := by
  induction xs generalizing cs with
  | nil => cases cs <;> simp [dot]
  | cons x xs ih =>
    cases cs with
    | nil => simp [dot]
    | cons c cs =>
      simp only [dot, List.length_cons]
      have h1 : (x * c).natAbs ≤ A * B := by
        rw [Int.natAbs_mul]
        exact Nat.mul_le_mul (hx x (by simp)) (hc c (by simp))
      have h2 := ih cs (fun y hy => hx y (by simp [hy])) (fun d hd => hc d (by simp [hd]))
      have h3 := Int.natAbs_add_le (x * c) (dot xs cs)
      rw [Nat.succ_mul]
      omega

theorem dot_fits64 (xs cs : List Int) (hx : ∀ x ∈ xs, fitsS 32 x = true) (hc : ∀ c ∈ cs, fitsS 16 c = true)
    (hl : cs.length ≤ 32) : fitsS 64 (dot xs cs) = true := by
  have hb := natAbs_dot_le xs cs (2 ^ 31) (2 ^ 15) (fun x h => natAbs_le_of_fitsS 31 (hx x h))
    (fun c h => natAbs_le_of_fitsS 15 (hc c h))
  have := Nat.mul_le_mul_right (2 ^ 31 * 2 ^ 15) hl
  rw [fitsS64_iff]
  omega

theorem fixedCoeffs_ok (o : Nat) : (∀ c ∈ fixedCoeffs.getD o [], fitsS 16 c = true) ∧ (fixedCoeffs.getD o []).length ≤ 32
    ∧ (o ≤ 4 → (fixedCoeffs.getD o []).length = o) := by
  match o with
  | 0 | 1 | 2 | 3 | 4 => decide
  | n + 5 => simp [fixedCoeffs]

/-- one step of `predict` in `i32`: the sum is accumulated in `i64` (exact when it fits), shifted, truncated to 32 bits
    and added with wrap-around; truncation and wrap cancel, so the result is `r + sum >> shift` whenever THAT fits 32
    bits - even if the prediction alone does not.  Both the round trip (C01) and the refinement of the RFC (C03) are
    this fact. -/
theorem predictStep32_ok (p : Profile) (r sum : Int) (shift : Nat) (hs : shift < 64)
    (hsum : fitsS 64 sum = true) (hfit : fitsS 32 (r + sum / 2 ^ shift) = true) :
    predictStep p 32 r sum shift = .ok (r + sum / 2 ^ shift) := by
  simp only [predictStep, Gen.decDot, wrapS64_of_fits hsum, Gen.decPredictStep32, if_true, bind, Except.bind, pure, Except.pure,
    shrX_ok p 64 shift hs, castS, wrapS_add_wrap, wrapS32_of_fits hfit]

theorem decWastedShl32_ok (p : Profile) (y : Int) (w : Nat) (hw : w < 32) (hx : fitsS 32 (y * 2 ^ w) = true) :
    decWastedShl32 p y w = .ok (y * 2 ^ w) := by
  rw [decWastedShl32, shlS_ok p 32 w hw, wrapS32_of_fits hx]

theorem mapM'_wasted (p : Profile) (w : Nat) (hw : w < 32) (ys : List Int) (hy : ∀ y ∈ ys, fitsS 32 (y * 2 ^ w) = true) :
    mapM' (wastedShl p 32 w) ys = .ok (ys.map (· * 2 ^ w)) :=
  mapM'_ok _ _ ys fun y h => by simp only [wastedShl, if_true, decWastedShl32_ok p y w hw (hy y h)]

theorem predictGo_length {p : Profile} {w : Nat} {coefs : List Int} {shift : Nat} {hist rs out : List Int}
    (h : predictGo p w coefs shift hist rs = .ok out) : out.length = hist.length + rs.length := by
  fun_induction predictGo p w coefs shift hist rs
  · cases h; simp
  · cases h
  · rename_i ih; rw [ih h, List.length_cons, List.length_cons]; omega

/-- the expansion of a subframe body, before the wasted bits are shifted back in: the inner `match` of `decodeSub`
    (Model/Decode.lean), copied so that the lemmas about the four kinds of body can name it -/
def decodeBody (p : Profile) (w bs : Nat) : SubBody → Res (List Int)
  | .constant v => .ok (List.replicate bs v)
  | .verbatim xs => .ok xs
  | .fixed o warm res => predict p w (fixedCoeffs.getD o []) 0 warm res.residuals
  | .lpc _ warm _ shift coefs res => predict p w coefs shift warm res.residuals

theorem decodeSub_eq (p : Profile) (w bs : Nat) (s : Subframe) :
    decodeSub p w bs s
      = decodeBody p w bs s.body >>= fun xs => if s.wasted > 0 then mapM' (wastedShl p w s.wasted) xs else .ok xs := by
  obtain ⟨k, body⟩ := s
  cases body
  case fixed o warm res => simp only [decodeSub, decodeBody]; cases predict p w (fixedCoeffs.getD o []) 0 warm res.residuals <;> rfl
  case lpc warm _ shift coefs res => simp only [decodeSub, decodeBody]; cases predict p w coefs shift warm res.residuals <;> rfl
  all_goals rfl

theorem decodeSub_zero (p : Profile) (w bs : Nat) (body : SubBody) :
    decodeSub p w bs { wasted := 0, body := body } = decodeBody p w bs body := by
  rw [decodeSub_eq]
  cases decodeBody p w bs body <;> rfl

/-! ### exactness of the stereo kernels: each returns the exact formula whenever the result fits

C01 (the decoder undoes the encoder) plugs the encoder's outputs into these formulas; C03 (the decoder follows the RFC)
observes that the formulas are the RFC's. -/

theorem decLeftSide_ok (p : Profile) (l s : Int) (hout : fitsS 32 (l - s) = true) : decLeftSide p l s = .ok (l - s) := by
  simp only [decLeftSide, pure, Except.pure, wrapS32_of_fits hout]

theorem decSideRight_ok (p : Profile) (s r : Int) (hout : fitsS 32 (s + r) = true) : decSideRight p s r = .ok (s + r) := by
  simp only [decSideRight, pure, Except.pure, wrapS32_of_fits hout]

theorem fitsS32_abs (s : Int) (hs : fitsS 32 s = true) (hsmin : -2147483648 < s) :
    fitsS 32 (if s < 0 then -s else s) = true := by
  rw [fitsS32_iff] at hs ⊢; split <;> omega

theorem fitsS32_of_half (a : Int) (h : fitsS 31 (a / 2) = true) : fitsS 32 a = true := by
  rw [fitsS31_iff] at h; rw [fitsS32_iff]; omega

/-- the parity of `|s|` (what `decMidSum` adds) is the low bit of `s` -/
theorem remS_abs_two (s : Int) : remS (if s < 0 then -s else s) 2 = s % 2 := by
  unfold remS
  split
  · rw [Int.tmod_eq_emod_of_nonneg (by omega), Int.neg_emod_two]
  · exact Int.tmod_eq_emod_of_nonneg (by omega)

/-- mid/side: for a side sample of depth ≤ 32 whose reconstructed left and right fit 31 bits, the decoder's
    `sum = mid*2 + |side| % 2; (sum ± side) >> 1` equals `((mid << 1) | (side & 1)) ± side) >> 1`, without trapping.
    Wrapping an operand is invisible to the next wrapping operation, so only `|side|` (its parity is taken unwrapped) and
    the two final sums have to fit 32 bits, and those fit because their halves fit 31. -/
theorem midSide32_ok (p : Profile) (m s : Int) (hs : fitsS 32 s = true)
    (hL : fitsS 31 ((2 * m + s % 2 + s) / 2) = true) (hR : fitsS 31 ((2 * m + s % 2 - s) / 2) = true)
    (hsmin : -2147483648 < s) :
    midSide32 p m s = .ok ((2 * m + s % 2 + s) / 2, (2 * m + s % 2 - s) / 2) := by
  simp only [midSide32, decMidSum, decMidLeft, decMidRight, pure, Except.pure, wrapS32_of_fits (fitsS32_abs s hs hsmin),
    remS_abs_two, wrapS_wrap_add, wrapS_wrap_sub, Int.mul_comm m 2, wrapS32_of_fits (fitsS32_of_half _ hL),
    wrapS32_of_fits (fitsS32_of_half _ hR), Int.pow_one]

end Flac
