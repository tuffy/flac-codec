/-
  Proofs/FileHead.lean — the metadata section `write_blocks` emits (model `writeBlocks`), as the file readers' model reads
  it (`parseFileHead`: "fLaC" tag, raw block walk, STREAMINFO).
-/
import FlacModel.Props.C11
import FlacModel.Model.FileDecode

namespace Flac
open Gen

/-- one written block, as the file reader's block walker sees it -/
theorem readRawBlocks_written {last : Bool} {b : Block} {x : List Nat} (hx : writeBlock last b = .ok x) (fuel : Nat) (r : List Nat)
    (used : Nat) :
    ∃ bs, b.body = .ok bs ∧ readRawBlocks (fuel + 1) (x ++ r) used =
      if last then .ok ([{ last := true, type := b.type, body := bs }], used + x.length)
      else match readRawBlocks fuel r (used + x.length) with
        | .error e => .error e
        | .ok (bl, u) => .ok ({ last := false, type := b.type, body := bs } :: bl, u) := by
  obtain ⟨bs, hd, n1, n2, n3, hb, rfl, hty, hlast, hlen⟩ := writeBlock_ok_cons hx
  have hu : used + 4 + bs.length = used + (hd :: n1 :: n2 :: n3 :: bs).length := by simp only [List.length_cons]; omega
  refine ⟨bs, hb, ?_⟩
  simp only [List.cons_append, readRawBlocks, hlen, hty, hlast, hu, List.length_append, Nat.not_lt.mpr (Nat.le_add_right ..), ↓reduceIte,
    List.take_left, List.drop_left]
  cases last <;> rfl

/-- a written block and the written blocks after it, as raw blocks: the first raw block and the number of bytes walked over; the raw
    blocks behind the first (`raws`) are left open -/
theorem readRawBlocks_writeRest {fuel : Nat} {bs : List Block} {b : Block} {s : Seen} {x y : List Nat} (hf : bs.length < fuel)
    (hx : writeBlock bs.isEmpty b = .ok x) (hy : writeRest s bs = .ok y) (tail : List Nat) (used : Nat) :
    ∃ body raws, b.body = .ok body ∧
      readRawBlocks fuel (x ++ (y ++ tail)) used = .ok ({ last := bs.isEmpty, type := b.type, body } :: raws, used + (x.length + y.length)) := by
  induction fuel generalizing bs b s x y used with
  | zero => exact absurd hf (Nat.not_lt_zero _)
  | succ fuel ih =>
    obtain ⟨body, hb, e⟩ := readRawBlocks_written hx fuel (y ++ tail) used
    rw [e]
    cases bs with
    | nil =>
      obtain rfl := Except.ok.inj hy
      exact ⟨body, [], hb, rfl⟩
    | cons b' r =>
      obtain ⟨s', x', y', -, hx', hy', rfl⟩ := writeRest_cons_ok_iff.mp hy
      obtain ⟨_, raws, -, e'⟩ := ih (Nat.lt_of_succ_lt_succ hf) hx' hy' (used + x.length)
      rw [List.append_assoc, List.isEmpty_cons, if_neg Bool.false_ne_true, e']
      exact ⟨body, _, hb, by rw [List.length_append, Nat.add_assoc]⟩

/-- **The metadata section round-trips into the file reader**: what `write_blocks` emits for a list headed by a
    well-formed STREAMINFO is read back by the file readers as that STREAMINFO, with the audio starting right behind it.
    (Of the head only `si` and `framesStart` are described; `hd.blocks` and `hd.seektable` are left open.) -/
theorem file_head_roundtrip (si : Streaminfo) (rest : List Block) (hw : C11.streaminfoWf si = true) (out : List Nat)
    (h : writeBlocks (.streaminfo si :: rest) = .ok out) (tail : List Nat) :
    ∃ hd, parseFileHead (out ++ tail) = .ok hd ∧ hd.si = si ∧ hd.framesStart = out.length := by
  obtain ⟨_, _, x, y, e, hx, hy, rfl⟩ := writeBlocks_ok_iff.mp h
  cases e
  have hlen := length_le_writeRest hy
  obtain ⟨body, raws, hb, hr⟩ := readRawBlocks_writeRest (fuel := (0x66 :: 0x4C :: 0x61 :: 0x43 :: (x ++ (y ++ tail))).length + 1)
    (by simp only [List.length_cons, List.length_append]; omega) hx hy tail 4
  have hps := C11.streaminfo_roundtrip si hw body hb
  simp only [parseFileHead, List.cons_append, List.append_assoc, List.take_succ_cons, List.take_zero,
    bne_self_eq_false, List.drop_succ_cons, List.drop_zero, hr, Block.type, hps, Bool.false_eq_true, ↓reduceIte]
  exact ⟨_, rfl, rfl, by simp only [List.length_cons, List.length_append]; omega⟩

/-- the file decoder on a written metadata section followed by `body`: the frame loop runs on `body` alone, under the
    STREAMINFO that was written (the one place where `fileDecode` is opened) -/
theorem fileDecode_written (p : Profile) (si : Streaminfo) (rest : List Block) (hw : C11.streaminfoWf si = true) (out : List Nat)
    (h : writeBlocks (.streaminfo si :: rest) = .ok out) (body : List Nat) :
    ∃ hd, hd.si = si ∧ fileDecode p (out ++ body) =
      match decodeLoop p { rate := si.rate, channels := si.channels, bps := si.bps, maxBlock := si.maxBlock } si.total
          ((out ++ body).length + 2) body 0 [] with
      | (frames, stop) => .ok { head := hd, frames, stop } := by
  obtain ⟨hd, h1, h2, h3⟩ := file_head_roundtrip si rest hw out h body
  refine ⟨hd, h2, ?_⟩
  simp only [fileDecode, h1, h3, List.drop_left, sinfoOfHead, h2]

end Flac
