/-
  Proofs/Parser.lean — the frame readers of Model/Frame.lean and Model/Decode.lean as monadic programs.
  The model spells every sequencing step out as a `match` on the previous result (only `readHeaderFields` is written
  in `do` notation and needs no such lemma); here each reader is shown equal to the same program written with `>>=`,
  `pure`, `P.fail` and `if` over the primitive readers (`readX_eq`).
  A property of parsers that the primitives have and that sequencing preserves (`Closed`) therefore holds of
  every reader the streaming decoder runs (`Closed.readSubframe`, `Closed.readHeaderFields`, `Closed.decSubframes`, …); locality (Proofs/Local.lean) and
  panic-freedom (Props/C04.lean) are two instances.  Facts about one run of a reader are read off the monadic
  form with the `*_ok_iff` lemmas.
-/
import FlacModel.Model.Decode
import FlacModel.Proofs.Bits

namespace Flac
open Flac.Gen

theorem bind_ok {α β : Type} {p : P α} {f : α → P β} {b b' : Bits} {a : α} (h : p b = .ok (a, b')) :
    (p >>= f) b = f a b' := by simp [bind, P.bind, h]

theorem pure_apply {α : Type} (a : α) (b : Bits) : (pure a : P α) b = .ok (a, b) := rfl

theorem bind_ok_iff {α β : Type} {p : P α} {f : α → P β} {b : Bits} {z : β × Bits} :
    (p >>= f) b = .ok z ↔ ∃ a b', p b = .ok (a, b') ∧ f a b' = .ok z := by
  simp only [bind, P.bind]
  cases p b with
  | error e => simp
  | ok v => exact ⟨fun h => ⟨v.1, v.2, rfl, h⟩, fun ⟨_, _, e, h⟩ => by cases e; exact h⟩

theorem pure_ok_iff {α : Type} {a : α} {b : Bits} {z : α × Bits} : (pure a : P α) b = .ok z ↔ z = (a, b) := by
  simp [pure, P.pure, eq_comm]

theorem fail_ok_iff {α : Type} {e : Fail} {b : Bits} {z : α × Bits} : (P.fail e : P α) b = .ok z ↔ False := by
  simp [P.fail]

theorem ite_ok_iff {α : Type} {c : Prop} [Decidable c] {p q : P α} {b : Bits} {z : α × Bits} :
    (if c then p else q) b = .ok z ↔ (c ∧ p b = .ok z) ∨ (¬ c ∧ q b = .ok z) := by
  split <;> simp [*]

/-- the guard form of `ite_ok_iff`, for `readHeaderFields_sound`: there `ite_ok_iff` would also open the `if`s that are no
    guards, which `blockSize_field_ok_iff` and `rate_field_ok_iff` have to meet as they stand -/
theorem ite_fail_ok_iff {α : Type} {c : Prop} [Decidable c] {e : Fail} {q : P α} {b : Bits} {z : α × Bits} :
    (if c then P.fail e else q) b = .ok z ↔ ¬ c ∧ q b = .ok z := by
  split <;> simp [*, P.fail]

/-- a computation that does not look at the input -/
def liftRes {γ : Type} (g : Res γ) : P γ := fun b => match g with | .ok c => .ok (c, b) | .error e => .error e

theorem liftRes_ok_iff {γ : Type} {g : Res γ} {b : Bits} {z : γ × Bits} : liftRes g b = .ok z ↔ ∃ c, g = .ok c ∧ z = (c, b) := by
  cases g <;> simp [liftRes, eq_comm]

theorem P.ite_apply {α} {c : Prop} [Decidable c] (p q : P α) (b : Bits) : (if c then p else q) b = if c then p b else q b := by
  split <;> rfl

/-- unfold a reader and its normal form to two ladders over the same sub-reader calls -/
macro "ladders " f:ident : tactic => `(tactic| simp only [$f:ident, bind, P.bind, pure, P.pure, P.fail, liftRes, P.ite_apply])

/-! Each proof below is the same walk: name the next sub-reader's result, let `dsimp only` reduce both ladders on it (that
closes the failing branch), go on with the successful one.  A test is passed by `ite_congr`, not by `split`: `split`
would simplify the whole goal at every `if`, which is slow on a reader the size of `readSubframe`. -/

theorem readU_eq (n : Nat) : readU n = (takeBits n >>= fun x => pure (bitsToNat x)) := by
  funext b; ladders readU; rcases takeBits n b with e | ⟨x, r⟩ <;> rfl

theorem readS_eq (n : Nat) : readS n = (takeBits n >>= fun x => pure (bitsToInt x)) := by
  funext b; ladders readS; rcases takeBits n b with e | ⟨x, r⟩ <;> rfl

theorem readN_zero {α} (p : P α) : readN p 0 = pure [] := rfl

theorem readN_succ {α} (p : P α) (n : Nat) : readN p (n + 1) = (p >>= fun x => readN p n >>= fun xs => pure (x :: xs)) := by
  funext b
  ladders readN
  rcases p b with e | ⟨x, b1⟩ <;> dsimp only
  rcases readN p n b1 with e | ⟨xs, b2⟩ <;> rfl

theorem readRiceOne_eq (k : Nat) : readRiceOne k =
    (readUnary1 >>= fun msb => readU k >>= fun lsb =>
      if decRiceOverflow msb k then P.fail (.err "ResidualOverflow") else pure (unfoldRice k msb lsb)) := by
  funext b
  ladders readRiceOne
  rcases readUnary1 b with e | ⟨msb, b1⟩ <;> dsimp only
  rcases readU k b1 with e | ⟨lsb, b2⟩ <;> rfl

theorem readPartition_eq (pbits n : Nat) : readPartition pbits n =
    (readU pbits >>= fun k =>
      if k == 2 ^ pbits - 1 then
        readU 5 >>= fun w => if w == 0 then pure (Partition.zero n) else readN (readS w) n >>= fun rs => pure (Partition.escaped w rs)
      else readN (readRiceOne k) n >>= fun rs => pure (Partition.rice k rs)) := by
  funext b
  ladders readPartition
  rcases readU pbits b with e | ⟨k, b1⟩ <;> dsimp only
  refine ite_congr rfl (fun _ => ?_) fun _ => ?_
  · rcases readU 5 b1 with e | ⟨w, b2⟩ <;> dsimp only
    refine ite_congr rfl (fun _ => rfl) fun _ => ?_
    rcases readN (readS w) n b2 with e | ⟨rs, b3⟩ <;> rfl
  · rcases readN (readRiceOne k) n b1 with e | ⟨rs, b2⟩ <;> rfl

theorem readPartitions_nil (pbits : Nat) : readPartitions pbits [] = pure [] := rfl

theorem readPartitions_cons (pbits n : Nat) (ns : List Nat) : readPartitions pbits (n :: ns) =
    (readPartition pbits n >>= fun p => readPartitions pbits ns >>= fun ps => pure (p :: ps)) := by
  funext b
  ladders readPartitions
  rcases readPartition pbits n b with e | ⟨p, b1⟩ <;> dsimp only
  rcases readPartitions pbits ns b1 with e | ⟨ps, b2⟩ <;> rfl

theorem readResidual_eq (layout : Layout) (bs order : Nat) : readResidual layout bs order =
    (readU 2 >>= fun method =>
      if method ≥ 2 then P.fail (.err "InvalidCodingMethod") else
      readU 4 >>= fun po => liftRes (layout bs order po) >>= fun sizes =>
        readPartitions (4 + method) sizes >>= fun ps => pure { method, order := po, parts := ps }) := by
  funext b
  ladders readResidual
  rcases readU 2 b with e | ⟨method, b1⟩ <;> dsimp only
  refine ite_congr rfl (fun _ => rfl) fun _ => ?_
  rcases readU 4 b1 with e | ⟨po, b2⟩ <;> dsimp only
  rcases layout bs order po with e | sizes <;> dsimp only
  rcases readPartitions (4 + method) sizes b2 with e | ⟨ps, b3⟩ <;> rfl

theorem readSubHeader_eq : readSubHeader =
    (readBit >>= fun pad =>
      if pad then P.fail (.err "InvalidSubframeHeader") else
      readU 6 >>= fun ty =>
        if !(ty == subTypeConstant || ty == subTypeVerbatim
             || (subTypeFixedLo ≤ ty && ty ≤ subTypeFixedHi) || (subTypeLpcLo ≤ ty && ty ≤ subTypeLpcHi))
        then P.fail (.err "InvalidSubframeHeaderType") else
        readBit >>= fun hasW =>
          if !hasW then pure (ty, 0) else readUnary1 >>= fun u => pure (ty, u + 1)) := by
  funext b
  ladders readSubHeader
  rcases readBit b with e | ⟨pad, b1⟩ <;> dsimp only
  refine ite_congr rfl (fun _ => rfl) fun _ => ?_
  rcases readU 6 b1 with e | ⟨ty, b2⟩ <;> dsimp only
  refine ite_congr rfl (fun _ => rfl) fun _ => ?_
  rcases readBit b2 with e | ⟨hasW, b3⟩ <;> dsimp only
  refine ite_congr rfl (fun _ => rfl) fun _ => ?_
  rcases readUnary1 b3 with e | ⟨u, b4⟩ <;> rfl

theorem readSubframe_eq (layout : Layout) (cw : Bool) (bs bps : Nat) : readSubframe layout cw bs bps =
    (readSubHeader >>= fun tw =>
      if bps ≤ tw.2 then P.fail (.err "ExcessiveWastedBits") else
      if tw.1 == subTypeConstant then
        readS (bps - tw.2) >>= fun v => pure { wasted := tw.2, body := .constant v }
      else if tw.1 == subTypeVerbatim then
        readN (readS (bps - tw.2)) bs >>= fun xs => pure { wasted := tw.2, body := .verbatim xs }
      else if subTypeFixedLo ≤ tw.1 && tw.1 ≤ subTypeFixedHi then
        if cw && tw.1 - subTypeFixedBase > bs then P.fail (.err "InvalidFixedOrder") else
        readN (readS (bps - tw.2)) (tw.1 - subTypeFixedBase) >>= fun warm =>
          readResidual layout bs (tw.1 - subTypeFixedBase) >>= fun res =>
            pure { wasted := tw.2, body := .fixed (tw.1 - subTypeFixedBase) warm res }
      else
        if cw && tw.1 - subTypeLpcBase > bs then P.fail (.err "InvalidLpcOrder") else
        readN (readS (bps - tw.2)) (tw.1 - subTypeLpcBase) >>= fun warm =>
          readU 4 >>= fun pm1 =>
            if pm1 == 15 then P.fail (.err "InvalidQlpPrecision") else
            readS 5 >>= fun shift =>
              if shift < 0 then P.fail (.err "NegativeLpcShift") else
              readN (readS (pm1 + 1)) (tw.1 - subTypeLpcBase) >>= fun coefs =>
                readResidual layout bs (tw.1 - subTypeLpcBase) >>= fun res =>
                  pure { wasted := tw.2, body := .lpc (tw.1 - subTypeLpcBase) warm (pm1 + 1) shift.toNat coefs res }) := by
  funext b
  ladders readSubframe
  rcases readSubHeader b with e | ⟨⟨ty, wasted⟩, b1⟩ <;> dsimp only
  refine ite_congr rfl (fun _ => rfl) fun _ => ite_congr rfl (fun _ => ?_) fun _ => ite_congr rfl (fun _ => ?_) fun _ =>
    ite_congr rfl (fun _ => ite_congr rfl (fun _ => rfl) fun _ => ?_) fun _ => ite_congr rfl (fun _ => rfl) fun _ => ?_
  · rcases readS (bps - wasted) b1 with e | ⟨v, b2⟩ <;> rfl
  · rcases readN (readS (bps - wasted)) bs b1 with e | ⟨xs, b2⟩ <;> rfl
  · rcases readN (readS (bps - wasted)) (ty - subTypeFixedBase) b1 with e | ⟨warm, b2⟩ <;> dsimp only
    rcases readResidual layout bs (ty - subTypeFixedBase) b2 with e | ⟨res, b3⟩ <;> rfl
  · rcases readN (readS (bps - wasted)) (ty - subTypeLpcBase) b1 with e | ⟨warm, b2⟩ <;> dsimp only
    rcases readU 4 b2 with e | ⟨pm1, b3⟩ <;> dsimp only
    refine ite_congr rfl (fun _ => rfl) fun _ => ?_
    rcases readS 5 b3 with e | ⟨shift, b4⟩ <;> dsimp only
    refine ite_congr rfl (fun _ => rfl) fun _ => ?_
    rcases readN (readS (pm1 + 1)) (ty - subTypeLpcBase) b4 with e | ⟨coefs, b5⟩ <;> dsimp only
    rcases readResidual layout bs (ty - subTypeLpcBase) b5 with e | ⟨res, b6⟩ <;> rfl

theorem readSubframes_succ (layout : Layout) (cw : Bool) (a : Assign) (bs bps n i : Nat) :
    readSubframes layout cw a bs bps (n + 1) i =
      (readSubframe layout cw bs (subBps a bps i) >>= fun s => readSubframes layout cw a bs bps n (i + 1) >>= fun ss => pure (s :: ss)) := by
  funext b
  ladders readSubframes
  rcases readSubframe layout cw bs (subBps a bps i) b with e | ⟨s, b1⟩ <;> dsimp only
  rcases readSubframes layout cw a bs bps n (i + 1) b1 with e | ⟨ss, b2⟩ <;> rfl

theorem decSubframes_succ (p : Profile) (a : Assign) (bs bps n i : Nat) : decSubframes p a bs bps (n + 1) i =
    (readSubframe decLayout true bs (subBps a bps i) >>= fun s => liftRes (decodeSub p (subWidth a bps i) bs s) >>= fun xs =>
      decSubframes p a bs bps n (i + 1) >>= fun xss => pure (xs :: xss)) := by
  funext b
  ladders decSubframes
  rcases readSubframe decLayout true bs (subBps a bps i) b with e | ⟨s, b1⟩ <;> dsimp only
  rcases decodeSub p (subWidth a bps i) bs s with e | xs <;> dsimp only
  rcases decSubframes p a bs bps n (i + 1) b1 with e | ⟨xss, b2⟩ <;> rfl

theorem readNumberTail_zero (acc : Nat) : readNumberTail 0 acc = pure acc := rfl

theorem readNumberTail_succ (n acc : Nat) : readNumberTail (n + 1) acc =
    (readU 2 >>= fun t => if t != 2 then P.fail (.err "InvalidFrameNumber") else readU 6 >>= fun v => readNumberTail n (acc * 64 + v)) := by
  funext b
  ladders readNumberTail
  rcases readU 2 b with e | ⟨t, b1⟩ <;> dsimp only
  refine ite_congr rfl (fun _ => rfl) fun _ => ?_
  rcases readU 6 b1 with e | ⟨v, b2⟩ <;> rfl

theorem readNumber_eq : readNumber =
    (readUnary0 >>= fun n =>
      if n == 0 then readU 7 >>= fun v => pure (v, 1)
      else if n == 1 || n > 7 then P.fail (.err "InvalidFrameNumber")
      else readU (7 - n) >>= fun v => readNumberTail (n - 1) v >>= fun x => pure (x, n)) := by
  funext b
  ladders readNumber
  rcases readUnary0 b with e | ⟨n, b1⟩ <;> dsimp only
  refine ite_congr rfl (fun _ => ?_) fun _ => ite_congr rfl (fun _ => rfl) fun _ => ?_
  · rcases readU 7 b1 with e | ⟨v, b2⟩ <;> rfl
  rcases readU (7 - n) b1 with e | ⟨v, b2⟩ <;> dsimp only
  rcases readNumberTail (n - 1) v b2 with e | ⟨x, b3⟩ <;> rfl

/-- `Q` holds of the primitive readers and is preserved by sequencing, where the continuation need only have it
    for values the first parser can return; `R` is what `Q` asks of a computation that ignores the input.
    `fail` is asked for `.err` only: no frame reader raises `.eof` or `.panic` itself, those come from the
    primitives and from `lift` (which is what lets panic-freedom be an instance). -/
structure Closed (Q : ∀ {α : Type}, P α → Prop) (R : ∀ {α : Type}, Res α → Prop) : Prop where
  pure : ∀ {α : Type} (a : α), Q (pure a : P α)
  fail : ∀ {α : Type} (c : String), Q (P.fail (.err c) : P α)
  bind : ∀ {α β : Type} {p : P α} {f : α → P β}, Q p → (∀ a, (∃ b r, p b = .ok (a, r)) → Q (f a)) → Q (p >>= f)
  lift : ∀ {α : Type} (g : Res α), R g → Q (liftRes g)
  readBit : Q readBit
  takeBits : ∀ n, Q (takeBits n)
  readUnary0 : Q readUnary0
  readUnary1 : Q readUnary1

namespace Closed
variable {Q : ∀ {α : Type}, P α → Prop} {R : ∀ {α : Type}, Res α → Prop} (h : Closed Q R)
include h

theorem seq {α β : Type} {p : P α} {f : α → P β} (hp : Q p) (hf : ∀ a, Q (f a)) : Q (p >>= f) :=
  h.bind hp fun a _ => hf a

omit h in
theorem ite {α : Type} {c : Prop} [Decidable c] {p q : P α} (hp : Q p) (hq : Q q) : Q (if c then p else q) := by
  split <;> assumption

theorem readU (n : Nat) : Q (readU n) := by
  rw [readU_eq]; exact h.seq (h.takeBits n) fun _ => h.pure _

theorem readS (n : Nat) : Q (readS n) := by
  rw [readS_eq]; exact h.seq (h.takeBits n) fun _ => h.pure _

theorem readN {α : Type} {p : P α} (hp : Q p) (n : Nat) : Q (readN p n) := by
  induction n with
  | zero => exact h.pure []
  | succ n ih => rw [readN_succ]; exact h.seq hp fun _ => h.seq ih fun _ => h.pure _

theorem readRiceOne (k : Nat) : Q (readRiceOne k) := by
  rw [readRiceOne_eq]
  exact h.seq h.readUnary1 fun _ => h.seq (h.readU k) fun _ => ite (h.fail _) (h.pure _)

theorem readPartition (pbits n : Nat) : Q (readPartition pbits n) := by
  rw [readPartition_eq]
  refine h.seq (h.readU _) fun k => ite ?_ ?_
  · exact h.seq (h.readU 5) fun w => ite (h.pure _) (h.seq (h.readN (h.readS w) n) fun _ => h.pure _)
  · exact h.seq (h.readN (h.readRiceOne k) n) fun _ => h.pure _

theorem readPartitions (pbits : Nat) (ns : List Nat) : Q (readPartitions pbits ns) := by
  induction ns with
  | nil => exact h.pure []
  | cons n ns ih => rw [readPartitions_cons]; exact h.seq (h.readPartition pbits n) fun _ => h.seq ih fun _ => h.pure _

theorem readResidual {layout : Layout} {bs order : Nat} (hl : ∀ po, R (layout bs order po)) :
    Q (readResidual layout bs order) := by
  rw [readResidual_eq]
  refine h.seq (h.readU 2) fun method => ite (h.fail _) ?_
  exact h.seq (h.readU 4) fun po => h.seq (h.lift _ (hl po)) fun sizes => h.seq (h.readPartitions _ sizes) fun _ => h.pure _

theorem readSubHeader : Q readSubHeader := by
  rw [readSubHeader_eq]
  refine h.seq h.readBit fun _ => ite (h.fail _) (h.seq (h.readU 6) fun _ => ite (h.fail _) ?_)
  exact h.seq h.readBit fun _ => ite (h.pure _) (h.seq h.readUnary1 fun _ => h.pure _)

theorem readSubframe {layout : Layout} (hl : ∀ bs order po, R (layout bs order po)) (cw : Bool) (bs bps : Nat) :
    Q (readSubframe layout cw bs bps) := by
  rw [readSubframe_eq]
  refine h.seq h.readSubHeader fun tw => ite (h.fail _) (ite ?_ (ite ?_ (ite ?_ ?_)))
  · exact h.seq (h.readS _) fun _ => h.pure _
  · exact h.seq (h.readN (h.readS _) _) fun _ => h.pure _
  · exact ite (h.fail _) (h.seq (h.readN (h.readS _) _) fun _ => h.seq (h.readResidual (hl _ _)) fun _ => h.pure _)
  · refine ite (h.fail _) (h.seq (h.readN (h.readS _) _) fun _ => h.seq (h.readU 4) fun _ => ite (h.fail _) ?_)
    refine h.seq (h.readS 5) fun _ => ite (h.fail _) ?_
    exact h.seq (h.readN (h.readS _) _) fun _ => h.seq (h.readResidual (hl _ _)) fun _ => h.pure _

theorem decSubframes (p : Profile) (a : Assign) (bs bps : Nat) (hl : ∀ bs order po, R (decLayout bs order po))
    (hd : ∀ i b s r, Flac.readSubframe decLayout true bs (subBps a bps i) b = .ok (s, r) → R (decodeSub p (subWidth a bps i) bs s))
    (n i : Nat) : Q (decSubframes p a bs bps n i) := by
  induction n generalizing i with
  | zero => exact h.pure []
  | succ n ih =>
    rw [decSubframes_succ]
    refine h.bind (h.readSubframe hl _ _ _) fun s ⟨b, r, hs⟩ => ?_
    exact h.seq (h.lift _ (hd i b s r hs)) fun _ => h.seq (ih _) fun _ => h.pure _

theorem readNumberTail (n acc : Nat) : Q (readNumberTail n acc) := by
  induction n generalizing acc with
  | zero => exact h.pure acc
  | succ n ih =>
    rw [readNumberTail_succ]
    exact h.seq (h.readU 2) fun _ => ite (h.fail _) (h.seq (h.readU 6) fun _ => ih _)

theorem readNumber : Q readNumber := by
  rw [readNumber_eq]
  refine h.seq h.readUnary0 fun n => ite (h.seq (h.readU 7) fun _ => h.pure _) (ite (h.fail _) ?_)
  exact h.seq (h.readU _) fun _ => h.seq (h.readNumberTail _ _) fun _ => h.pure _

theorem readHeaderFields (si : Option SInfo) : Q (readHeaderFields si) := by
  unfold Flac.readHeaderFields
  refine h.seq (h.readU 15) fun _ => ite (h.fail _) <| h.seq h.readBit fun _ => h.seq (h.readU 4) fun _ => ite (h.fail _) ?_
  refine h.seq (h.readU 4) fun _ => ite (h.fail _) <| ite (h.fail _) <| h.seq (h.readU 4) fun _ => ite (h.fail _) ?_
  refine h.seq (h.readU 3) fun _ => ite (h.fail _) <| ite (h.fail _) <| h.seq h.readBit fun _ => h.seq h.readNumber fun _ => ?_
  refine h.seq (ite (h.seq (h.readU 8) fun _ => h.pure _) (ite (h.seq (h.readU 16) fun _ => ite (h.fail _) (h.pure _)) (h.pure _))) fun _ => ?_
  refine h.seq (ite (h.pure _) (ite ?_ (ite ?_ (ite ?_ (h.pure _))))) fun _ => h.seq (h.readU 8) fun _ => h.pure _
  all_goals exact h.seq (h.readU _) fun _ => h.pure _

end Closed

end Flac
