/-
  Proofs/CrcSelf.lean — the two checksums of `Model/Crc.lean` stay in range, and a message followed by its own
  checksum has remainder 0.  Only `Model/Crc.lean` and the regenerated tables are needed (kept apart from the frame
  codec and from the bit-serial theory of Proofs/CrcEq.lean so that the I/O properties can use it without importing
  the decoder); the converse, remainder 0 pins the stored checksum, is `crc8_pins` / `crc16_pins` there.
-/
import FlacModel.Model.Crc
import FlacModel.Proofs.ListAux

namespace Flac
open Flac.Gen

/-! ### range (for EVERY list of numbers, bytes or not: only the tables' entries matter) -/

theorem crc16Table_lt : crc16Table.all (· < 65536) = true := by decide +kernel
theorem crc8Table_lt : crc8Table.all (· < 256) = true := by decide +kernel

theorem crc16Update_lt (c b : Nat) : crc16Update c b < 65536 :=
  Nat.xor_lt_two_pow (n := 16) (getD_lt_of_all crc16Table_lt (by decide) _) (Nat.mod_lt _ (by decide))

theorem crc8Update_lt (c b : Nat) : crc8Update c b < 256 := getD_lt_of_all crc8Table_lt (by decide) _

theorem crc16_lt (bs : List Nat) : crc16 bs < 65536 := foldl_lt crc16Update_lt bs 0 (by decide)
theorem crc8_lt (bs : List Nat) : crc8 bs < 256 := foldl_lt crc8Update_lt bs 0 (by decide)

/-! ### a message followed by its own checksum has remainder 0: the register is xored with itself, and entry 0 is 0 -/

theorem crc8Table_zero : crc8Table.getD 0 0 = 0 := by decide
theorem crc16Table_zero : crc16Table.getD 0 0 = 0 := by decide

theorem crc8_self (bs : List Nat) : crc8 (bs ++ [crc8 bs]) = 0 := by
  simp only [crc8, List.foldl_append, List.foldl_cons, List.foldl_nil, crc8Update]
  rw [show ∀ x, Nat.xor x x = 0 from Nat.xor_self]
  exact crc8Table_zero

theorem crc16_self (bs : List Nat) : crc16 (bs ++ [crc16 bs / 256, crc16 bs % 256]) = 0 := by
  have hc := crc16_lt bs
  simp only [crc16, List.foldl_append, List.foldl_cons, List.foldl_nil] at hc ⊢
  generalize List.foldl crc16Update 0 bs = c at hc ⊢
  have xs : ∀ x, Nat.xor x x = 0 := Nat.xor_self
  have zx : ∀ x, Nat.xor 0 x = x := Nat.zero_xor
  have s1 : crc16Update c (c / 256) = c % 256 * 256 := by
    unfold crc16Update
    have : c / 2 ^ 8 % 256 = c / 256 := by omega
    rw [this, xs, crc16Table_zero, zx]; omega
  rw [s1]
  unfold crc16Update
  have : c % 256 * 256 / 2 ^ 8 % 256 = c % 256 := by omega
  rw [this, xs, crc16Table_zero, zx]; omega

theorem crc8Valid_eq_zero (c : Nat) (h : crc8Valid c = true) : c = 0 := by simpa [crc8Valid] using h
theorem crc16Valid_eq_zero (c : Nat) (h : crc16Valid c = true) : c = 0 := by simpa [crc16Valid] using h

end Flac
