/-
  Proofs/Res.lean — one run of a computation in `Res` (`Except Fail`) written with `>>=` and guards: what an `.ok` stands for.
  The byte-level readers and writers of the metadata model and the frame-level functions (in the bind form of
  Proofs/FrameInv.lean) are taken apart with these.
-/
import FlacModel.Model.Basic

namespace Flac

theorem res_bind_ok_iff {α β : Type} {x : Res α} {f : α → Res β} {z : β} :
    (x >>= f) = .ok z ↔ ∃ a, x = .ok a ∧ f a = .ok z := by
  cases x with
  | error e => exact ⟨nofun, fun ⟨_, h, _⟩ => nomatch h⟩
  | ok a => exact ⟨fun h => ⟨a, rfl, h⟩, fun ⟨_, e, h⟩ => Except.ok.inj e ▸ h⟩

theorem res_guard_ok_iff {α : Type} {c : Prop} [Decidable c] {e : Fail} {r : Res α} {x : α} :
    (if c then .error e else r) = .ok x ↔ ¬ c ∧ r = .ok x := by
  split <;> simp [*]

end Flac
