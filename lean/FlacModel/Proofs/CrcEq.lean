/-
  Proofs/CrcEq.lean — theory of the bit-serial LFSR of the specification (Spec/Rfc.lean) for any register width and
  polynomial, and its two instances: the table-driven checksums of crc.rs (tables and update expressions regenerated
  into Gen/Crc.lean) compute it on EVERY message.

  Write `S` for the step with a zero input bit (`step0`) and `S^n` for `zeroRun n`; `S` is linear over xor (`zeroRun_xor`).
  * top entry (`fold_eq_zeroRun`): `n ≤ w` input bits `v` act like loading them into the top of the register first:
                                   the state after them is `S^n (c ^^^ v·2^(w-n))`.
    With linearity this alone gives table-driven = bit-serial (`fold_byte`): a table entry is `S^8 (i·2^(w-8))`, and each
    table is compared ONCE with the bit-serial definition.
  * linearity in the start state (`fold_xor`): running bits from `c ^^^ d` = running them from `c`, xor `S^n d`;
  * no kernel (`zeroRun_inj`): for an odd polynomial `S` is injective.
    These two are what the stored checksums (`fold_eq_zero_iff`, the pins) and C05 (`fold_inj`) need on top.
-/
import FlacModel.Spec.Rfc
import FlacModel.Proofs.Bits
import FlacModel.Proofs.CrcSelf

namespace Flac.CrcEq
open Flac Gen

/-- one step with a zero input bit, written with the shift and the feedback separated -/
def step0 (w poly c : Nat) : Nat := (c * 2) % 2 ^ w ^^^ (c / 2 ^ (w - 1) % 2) * poly

/-- `n` zero-input steps -/
def zeroRun (w poly : Nat) : Nat → Nat → Nat
  | 0, d => d
  | n + 1, d => zeroRun w poly n (step0 w poly d)

theorem xor_left_cancel {a x y : Nat} (h : a ^^^ x = a ^^^ y) : x = y := by
  have := congrArg (a ^^^ ·) h
  simpa only [← Nat.xor_assoc, Nat.xor_self, Nat.zero_xor] using this

theorem mul_two_pow_xor (k x y : Nat) : (x ^^^ y) * 2 ^ k = x * 2 ^ k ^^^ y * 2 ^ k := by
  simpa only [Nat.shiftLeft_eq] using @Nat.shiftLeft_xor_distrib k x y

theorem bit_mul_xor (a b poly : Nat) (ha : a < 2) (hb : b < 2) : (a ^^^ b) * poly = a * poly ^^^ b * poly := by
  have ha' : a = 0 ∨ a = 1 := by omega
  have hb' : b = 0 ∨ b = 1 := by omega
  rcases ha' with rfl | rfl <;> rcases hb' with rfl | rfl <;> simp

/-- adding below a multiple of `2^k` is xor -/
theorem mul_two_pow_add_eq_xor {k r : Nat} (hr : r < 2 ^ k) (a : Nat) : a * 2 ^ k + r = a * 2 ^ k ^^^ r := by
  rw [Nat.mul_comm]
  apply Nat.eq_of_testBit_eq
  intro j
  simp only [Nat.testBit_two_pow_mul_add _ hr, Nat.testBit_xor, Nat.testBit_two_pow_mul]
  by_cases hj : j < k
  · simp [Nat.not_le_of_lt, hj]
  · have hk : k ≤ j := Nat.le_of_not_lt hj
    simp [hj, hk, Nat.testBit_lt_two_pow (Nat.lt_of_lt_of_le hr (Nat.pow_le_pow_right (by decide) hk))]

theorem two_pow_pred {w : Nat} (hw : 0 < w) : 2 ^ w = 2 ^ (w - 1) * 2 := (Nat.two_pow_pred_mul_two hw).symm

theorem topBit_lt {w : Nat} (hw : 0 < w) (b : Bool) : (if b then 2 ^ (w - 1) else 0) < 2 ^ w := by
  have := two_pow_pred hw
  have := Nat.two_pow_pos (w - 1)
  split <;> omega

theorem top_lt {w c : Nat} (hw : 0 < w) (hc : c < 2 ^ w) : c / 2 ^ (w - 1) < 2 := by
  rw [Nat.div_lt_iff_lt_mul (Nat.two_pow_pos _), Nat.mul_comm, ← two_pow_pred hw]; exact hc

/-- **linearity** of the zero-input step -/
theorem step0_xor (w poly x y : Nat) (hw : 0 < w) (hx : x < 2 ^ w) (hy : y < 2 ^ w) :
    step0 w poly (x ^^^ y) = step0 w poly x ^^^ step0 w poly y := by
  have dx := top_lt hw hx
  have dy := top_lt hw hy
  unfold step0
  rw [mul_two_pow_xor 1, Nat.xor_mod_two_pow, Nat.xor_div_two_pow, Nat.mod_eq_of_lt dx, Nat.mod_eq_of_lt dy,
    Nat.mod_eq_of_lt (Nat.xor_lt_two_pow (n := 1) dx dy), bit_mul_xor _ _ poly dx dy]
  ac_rfl

theorem step0_lt (w poly c : Nat) (hp : poly < 2 ^ w) : step0 w poly c < 2 ^ w := by
  unfold step0
  apply Nat.xor_lt_two_pow (Nat.mod_lt _ (Nat.two_pow_pos w))
  have h' : c / 2 ^ (w - 1) % 2 = 0 ∨ c / 2 ^ (w - 1) % 2 = 1 := by omega
  rcases h' with h | h <;> rw [h] <;> simp <;> omega

/-- below the top bit the step is a plain shift -/
theorem step0_small (w poly c : Nat) (hw : 0 < w) (hc : c < 2 ^ (w - 1)) : step0 w poly c = c * 2 := by
  unfold step0
  rw [Nat.div_eq_of_lt hc, Nat.mod_eq_of_lt (by rw [two_pow_pred hw]; omega)]
  simp

/-- the register's top bit leaves at the bottom when the polynomial is odd, so only 0 steps to 0 -/
theorem step0_eq_zero (w poly c : Nat) (hw : 0 < w) (hodd : poly % 2 = 1) (hc : c < 2 ^ w)
    (h : step0 w poly c = 0) : c = 0 := by
  have ht := top_lt hw hc
  have hlow : step0 w poly c % 2 = c / 2 ^ (w - 1) := by
    unfold step0
    have he : c * 2 % 2 ^ w % 2 = 0 := by rw [two_pow_pred hw, Nat.mul_mod_mul_right]; omega
    generalize c / 2 ^ (w - 1) = t at ht ⊢
    have h' : t = 0 ∨ t = 1 := by omega
    rcases h' with rfl | rfl <;> simp [Nat.xor_mod_two_pow (n := 1), he, hodd]
  rw [h] at hlow
  have hs : c < 2 ^ (w - 1) := (Nat.div_eq_zero_iff_lt (Nat.two_pow_pos _)).mp hlow.symm
  rw [step0_small w poly c hw hs] at h
  omega

/-- the input bit enters by xor into the top bit of the state -/
theorem crcStep_eq (w poly c : Nat) (bit : Bool) (hw : 0 < w) (hc : c < 2 ^ w) :
    Spec.crcStep w poly c bit = step0 w poly (c ^^^ (if bit then 2 ^ (w - 1) else 0)) := by
  have dc := top_lt hw hc
  unfold Spec.crcStep step0
  rw [mul_two_pow_xor 1, Nat.xor_mod_two_pow, Nat.xor_div_two_pow]
  generalize c / 2 ^ (w - 1) = t at dc ⊢
  have ht : t = 0 ∨ t = 1 := by omega
  cases bit
  · rcases ht with rfl | rfl <;> simp
  · rw [if_pos rfl, Nat.pow_one, ← two_pow_pred hw, Nat.mod_self, Nat.div_self (Nat.two_pow_pos _)]
    rcases ht with rfl | rfl <;> simp

theorem step_lt (w poly c : Nat) (b : Bool) (hp : poly < 2 ^ w) : Spec.crcStep w poly c b < 2 ^ w := by
  unfold Spec.crcStep
  have hm : c * 2 % 2 ^ w < 2 ^ w := Nat.mod_lt _ (Nat.two_pow_pos w)
  split
  · exact Nat.xor_lt_two_pow hm hp
  · exact hm

theorem fold_lt (w poly : Nat) (hp : poly < 2 ^ w) (bits : Bits) (c : Nat) (hc : c < 2 ^ w) :
    bits.foldl (Spec.crcStep w poly) c < 2 ^ w :=
  foldl_lt (fun c b => step_lt w poly c b hp) bits c hc

theorem zeroRun_lt (w poly : Nat) (hp : poly < 2 ^ w) (n d : Nat) (hd : d < 2 ^ w) : zeroRun w poly n d < 2 ^ w := by
  induction n generalizing d with
  | zero => exact hd
  | succ n ih => exact ih _ (step0_lt w poly d hp)

theorem zeroRun_xor (w poly : Nat) (hw : 0 < w) (hp : poly < 2 ^ w) (n x y : Nat) (hx : x < 2 ^ w) (hy : y < 2 ^ w) :
    zeroRun w poly n (x ^^^ y) = zeroRun w poly n x ^^^ zeroRun w poly n y := by
  induction n generalizing x y with
  | zero => rfl
  | succ n ih =>
    simp only [zeroRun]
    rw [step0_xor w poly x y hw hx hy]
    exact ih _ _ (step0_lt w poly x hp) (step0_lt w poly y hp)

/-- as long as nothing reaches the top bit, `n` steps shift by `n` -/
theorem zeroRun_small (w poly : Nat) (hw : 0 < w) (n c : Nat) (hc : c * 2 ^ n < 2 ^ w) :
    zeroRun w poly n c = c * 2 ^ n := by
  induction n generalizing c with
  | zero => simp [zeroRun]
  | succ n ih =>
    rw [Nat.pow_succ, Nat.mul_comm (2 ^ n), ← Nat.mul_assoc] at hc
    have h2 : c * 2 < 2 ^ w := Nat.lt_of_le_of_lt (Nat.le_mul_of_pos_right _ (Nat.two_pow_pos n)) hc
    rw [zeroRun, step0_small w poly c hw (by rw [two_pow_pred hw] at h2; omega), ih _ hc, Nat.pow_succ,
      Nat.mul_comm (2 ^ n), Nat.mul_assoc]

/-- **no kernel**: for an odd polynomial the zero-input run is injective -/
theorem zeroRun_inj (w poly : Nat) (hw : 0 < w) (hp : poly < 2 ^ w) (hodd : poly % 2 = 1) (n x y : Nat)
    (hx : x < 2 ^ w) (hy : y < 2 ^ w) (h : zeroRun w poly n x = zeroRun w poly n y) : x = y := by
  have hz : ∀ n d, d < 2 ^ w → zeroRun w poly n d = 0 → d = 0 := by
    intro n
    induction n with
    | zero => intro d _ h; exact h
    | succ n ih => intro d hd h; exact step0_eq_zero w poly d hw hodd hd (ih _ (step0_lt w poly d hp) h)
  have h0 := zeroRun_xor w poly hw hp n x y hx hy
  rw [h, Nat.xor_self] at h0
  exact (xor_left_cancel (a := x) (by rw [Nat.xor_self, hz n _ (Nat.xor_lt_two_pow hx hy) h0])).symm

/-- **linearity**: running any input from `c ^^^ d` = running it from `c`, xor the zero-input run of `d` -/
theorem fold_xor (w poly : Nat) (hw : 0 < w) (hp : poly < 2 ^ w) (bits : Bits) (c d : Nat) (hc : c < 2 ^ w) (hd : d < 2 ^ w) :
    bits.foldl (Spec.crcStep w poly) (c ^^^ d) = bits.foldl (Spec.crcStep w poly) c ^^^ zeroRun w poly bits.length d := by
  induction bits generalizing c d with
  | nil => simp [zeroRun]
  | cons b bits ih =>
    have hm := topBit_lt hw b
    have hcd : c ^^^ d < 2 ^ w := Nat.xor_lt_two_pow hc hd
    have hcm : c ^^^ (if b then 2 ^ (w - 1) else 0) < 2 ^ w := Nat.xor_lt_two_pow hc hm
    have e : Spec.crcStep w poly (c ^^^ d) b = Spec.crcStep w poly c b ^^^ step0 w poly d := by
      rw [crcStep_eq w poly _ b hw hcd, crcStep_eq w poly c b hw hc]
      rw [Nat.xor_assoc, Nat.xor_comm d, ← Nat.xor_assoc, step0_xor w poly _ d hw hcm hd]
    simp only [List.foldl_cons, List.length_cons, zeroRun]
    rw [e]
    exact ih _ _ (step_lt w poly c b hp) (step0_lt w poly d hp)

/-- different register states stay different, whatever bits follow -/
theorem fold_inj (w poly : Nat) (hw : 0 < w) (hp : poly < 2 ^ w) (hodd : poly % 2 = 1) (bits : Bits) (c d : Nat)
    (hc : c < 2 ^ w) (hd : d < 2 ^ w)
    (h : bits.foldl (Spec.crcStep w poly) c = bits.foldl (Spec.crcStep w poly) d) : c = d := by
  have e := fun x hx => fold_xor w poly hw hp bits 0 x (Nat.two_pow_pos w) hx
  simp only [Nat.zero_xor] at e
  rw [e c hc, e d hd] at h
  exact zeroRun_inj w poly hw hp hodd _ c d hc hd (xor_left_cancel h)

/-- **top entry**: `n ≤ w` input bits act like xoring them into the top `n` bits of the register first -/
theorem fold_eq_zeroRun (w poly : Nat) (hp : poly < 2 ^ w) (bits : Bits) (k : Nat) (hk : bits.length + k = w)
    (c : Nat) (hc : c < 2 ^ w) :
    bits.foldl (Spec.crcStep w poly) c = zeroRun w poly bits.length (c ^^^ bitsToNat bits * 2 ^ k) := by
  induction bits generalizing c k with
  | nil => simp [zeroRun, bitsToNat]
  | cons b bs ih =>
    rw [List.length_cons] at hk
    have hw : 0 < w := by omega
    have hw1 : w - 1 = bs.length + k := by omega
    -- the bits behind `b`, in place: they stay below the top bit
    have hr : bitsToNat bs * 2 ^ k < 2 ^ (w - 1) := by
      rw [hw1, Nat.pow_add]; exact Nat.mul_lt_mul_of_pos_right (bitsToNat_lt' bs) (Nat.two_pow_pos k)
    have hm := topBit_lt hw b
    have e : bitsToNat (b :: bs) * 2 ^ k = (if b then 2 ^ (w - 1) else 0) ^^^ bitsToNat bs * 2 ^ k := by
      rw [bitsToNat_cons, Nat.add_mul, Nat.mul_assoc, ← Nat.pow_add, ← hw1]
      cases b
      · simp
      · rw [if_pos rfl, if_pos rfl, mul_two_pow_add_eq_xor hr, Nat.one_mul]
    simp only [List.foldl_cons, List.length_cons, zeroRun]
    rw [ih (k + 1) (by omega) _ (step_lt w poly c b hp), e, ← Nat.xor_assoc,
      step0_xor w poly _ _ hw (Nat.xor_lt_two_pow hc hm) (by rw [two_pow_pred hw]; omega),
      ← crcStep_eq w poly c b hw hc, step0_small w poly _ hw hr, Nat.pow_succ, Nat.mul_assoc]

/-- after exactly `w` input bits the register is 0 iff those bits spelled the register: a message followed by its own
    checksum leaves 0, and nothing else in that place does -/
theorem fold_eq_zero_iff (w poly : Nat) (hw : 0 < w) (hp : poly < 2 ^ w) (hodd : poly % 2 = 1) (bits : Bits)
    (hn : bits.length = w) (c : Nat) (hc : c < 2 ^ w) :
    bits.foldl (Spec.crcStep w poly) c = 0 ↔ bitsToNat bits = c := by
  have hv : bitsToNat bits < 2 ^ w := hn ▸ bitsToNat_lt' bits
  have z : zeroRun w poly bits.length 0 = 0 := by simpa using zeroRun_small w poly hw bits.length 0 (by simp [Nat.two_pow_pos])
  rw [fold_eq_zeroRun w poly hp bits 0 (by omega) c hc, Nat.pow_zero, Nat.mul_one]
  constructor
  · intro h
    have := zeroRun_inj w poly hw hp hodd _ _ 0 (Nat.xor_lt_two_pow hc hv) (Nat.two_pow_pos w) (h.trans z.symm)
    exact (xor_left_cancel (a := c) (by rw [this, Nat.xor_self])).symm
  · rintro rfl; rw [Nat.xor_self, z]

/-! ### a byte at a time, by table

`T` is any table whose entry `i` is the bit-serial checksum of the one-byte message `i`, `upd` any byte step that agrees
with eight bit steps: the crate's two tables and update expressions are put in at the end. -/

theorem table_zeroRun (w poly : Nat) (hw : 8 ≤ w) (hp : poly < 2 ^ w) (T : List Nat)
    (hT : ∀ i, i < 256 → T.getD i 0 = Spec.crcBits w poly (natToBits 8 i)) (i : Nat) (hi : i < 256) :
    T.getD i 0 = zeroRun w poly 8 (i * 2 ^ (w - 8)) := by
  rw [hT i hi, Spec.crcBits, fold_eq_zeroRun w poly hp _ (w - 8) (by simp; omega) 0 (Nat.two_pow_pos w),
    natToBits_length, bitsToNat_natToBits, Nat.zero_xor, Nat.mod_eq_of_lt hi]

/-- eight steps from any state: the top byte of the state joins the input byte, the rest is shifted up -/
theorem fold_byte (w poly : Nat) (hw : 8 ≤ w) (hp : poly < 2 ^ w) (T : List Nat)
    (hT : ∀ i, i < 256 → T.getD i 0 = Spec.crcBits w poly (natToBits 8 i)) (c b : Nat) (hc : c < 2 ^ w) (hb : b < 256) :
    (natToBits 8 b).foldl (Spec.crcStep w poly) c = T.getD (c / 2 ^ (w - 8) ^^^ b) 0 ^^^ c % 2 ^ (w - 8) * 2 ^ 8 := by
  have hk : 0 < 2 ^ (w - 8) := Nat.two_pow_pos _
  have hww : 2 ^ w = 2 ^ 8 * 2 ^ (w - 8) := by rw [← Nat.pow_add]; congr 1; omega
  have htop : c / 2 ^ (w - 8) ^^^ b < 2 ^ 8 :=
    Nat.xor_lt_two_pow (by rw [Nat.div_lt_iff_lt_mul hk, ← hww]; exact hc) hb
  have hlow : c % 2 ^ (w - 8) < 2 ^ (w - 8) := Nat.mod_lt _ hk
  have e : c ^^^ b * 2 ^ (w - 8) = (c / 2 ^ (w - 8) ^^^ b) * 2 ^ (w - 8) ^^^ c % 2 ^ (w - 8) := by
    conv => lhs; rw [← Nat.div_add_mod c (2 ^ (w - 8)), Nat.mul_comm, mul_two_pow_add_eq_xor hlow]
    rw [mul_two_pow_xor]; ac_rfl
  rw [fold_eq_zeroRun w poly hp _ (w - 8) (by simp; omega) c hc, natToBits_length, bitsToNat_natToBits,
    Nat.mod_eq_of_lt hb, e,
    zeroRun_xor w poly (by omega) hp 8 _ _ (by rw [hww]; exact Nat.mul_lt_mul_of_pos_right htop hk) (by omega),
    ← table_zeroRun w poly hw hp T hT _ htop,
    zeroRun_small w poly (by omega) 8 _ (by rw [hww, Nat.mul_comm]; exact Nat.mul_lt_mul_of_pos_left hlow (by decide))]

theorem fold_bytes (w poly : Nat) (hp : poly < 2 ^ w) (upd : Nat → Nat → Nat)
    (h : ∀ c b, c < 2 ^ w → b < 256 → (natToBits 8 b).foldl (Spec.crcStep w poly) c = upd c b)
    (bs : List Nat) (hb : ∀ x ∈ bs, x < 256) (c : Nat) (hc : c < 2 ^ w) :
    (bytesToBits bs).foldl (Spec.crcStep w poly) c = bs.foldl upd c := by
  induction bs generalizing c with
  | nil => rfl
  | cons x xs ih =>
    have hx := hb x (by simp)
    rw [bytesToBits_cons, List.foldl_append, h c x hc hx]
    exact ih (fun y hy => hb y (by simp [hy])) _ (by rw [← h c x hc hx]; exact fold_lt w poly hp _ c hc)

/-! ### the tables of crc.rs: each compared once with the bit-serial checksum of every one-byte message -/

theorem getD_map_range (f : Nat → Nat) (n i : Nat) (hi : i < n) : ((List.range n).map f).getD i 0 = f i := by
  simp [hi]

theorem crc16Table_eq : crc16Table = (List.range 256).map fun i => Spec.crcBits 16 0x8005 (natToBits 8 i) := by
  decide +kernel

theorem crc8Table_eq : crc8Table = (List.range 256).map fun i => Spec.crcBits 8 0x07 (natToBits 8 i) := by
  decide +kernel

theorem t16_entry (i : Nat) (hi : i < 256) : crc16Table.getD i 0 = Spec.crcBits 16 0x8005 (natToBits 8 i) := by
  rw [crc16Table_eq]; exact getD_map_range _ _ _ hi

theorem t8_entry (i : Nat) (hi : i < 256) : crc8Table.getD i 0 = Spec.crcBits 8 0x07 (natToBits 8 i) := by
  rw [crc8Table_eq]; exact getD_map_range _ _ _ hi

theorem byte16 (c b : Nat) (hc : c < 65536) (hb : b < 256) :
    (natToBits 8 b).foldl (Spec.crcStep 16 0x8005) c = crc16Update c b := by
  rw [fold_byte 16 0x8005 (by decide) (by decide) _ t16_entry c b hc hb]
  have a : c / 2 ^ 8 % 256 = c / 2 ^ (16 - 8) := by omega
  have d : c * 2 ^ 8 % 65536 = c % 2 ^ (16 - 8) * 2 ^ 8 := by omega
  rw [crc16Update, a, d]; rfl

theorem byte8 (c b : Nat) (hc : c < 256) (hb : b < 256) :
    (natToBits 8 b).foldl (Spec.crcStep 8 0x07) c = crc8Update c b := by
  rw [fold_byte 8 0x07 (by decide) (by decide) _ t8_entry c b hc hb]
  simp [crc8Update, Nat.mod_one]

/-! ### the stored checksum: the remainder is 0 iff the checksum bytes spell the register -/

theorem crc8Update_eq_zero (c x : Nat) (hc : c < 256) (hx : x < 256) : crc8Update c x = 0 ↔ x = c := by
  rw [← byte8 c x hc hx, fold_eq_zero_iff 8 0x07 (by decide) (by decide) (by decide) _ (natToBits_length 8 x) c hc,
    bitsToNat_natToBits, Nat.mod_eq_of_lt hx]

theorem crc16Update_eq_zero (c hi lo : Nat) (hc : c < 65536) (hh : hi < 256) (hl : lo < 256) :
    crc16Update (crc16Update c hi) lo = 0 ↔ hi * 256 + lo = c := by
  rw [← byte16 _ lo (crc16Update_lt c hi) hl, ← byte16 c hi hc hh, ← List.foldl_append,
    fold_eq_zero_iff 16 0x8005 (by decide) (by decide) (by decide) _ (by simp) c hc,
    bitsToNat_append, bitsToNat_natToBits, bitsToNat_natToBits, natToBits_length, Nat.mod_eq_of_lt hh, Nat.mod_eq_of_lt hl]

/-- **CRC-16 of crc.rs = the specification's CRC-16, on every message** -/
theorem crc16_eq_spec (bs : List Nat) (hb : ∀ x ∈ bs, x < 256) : crc16 bs = Spec.crc16 bs :=
  (fold_bytes 16 0x8005 (by decide) crc16Update byte16 bs hb 0 (by decide)).symm

/-- **CRC-8 of crc.rs = the specification's CRC-8, on every message** -/
theorem crc8_eq_spec (bs : List Nat) (hb : ∀ x ∈ bs, x < 256) : crc8 bs = Spec.crc8 bs :=
  (fold_bytes 8 0x07 (by decide) crc8Update byte8 bs hb 0 (by decide)).symm

end Flac.CrcEq

namespace Flac
open Flac.Gen

/-! ### remainder 0 pins the stored checksum (the converse of `crc8_self` / `crc16_self`) -/

theorem crc8_pins (bs : List Nat) (c : Nat) (hc : c < 256) (h : crc8 (bs ++ [c]) = 0) : c = crc8 bs := by
  simp only [crc8, List.foldl_append, List.foldl_cons, List.foldl_nil] at h
  exact (CrcEq.crc8Update_eq_zero _ c (crc8_lt bs) hc).mp h

theorem crc16_pins (bs : List Nat) (hi lo : Nat) (hh : hi < 256) (hl : lo < 256) (h : crc16 (bs ++ [hi, lo]) = 0) :
    hi = crc16 bs / 256 ∧ lo = crc16 bs % 256 := by
  simp only [crc16, List.foldl_append, List.foldl_cons, List.foldl_nil] at h
  have := (CrcEq.crc16Update_eq_zero _ hi lo (crc16_lt bs) hh hl).mp h
  omega

end Flac
